import GsModel.Text.Tags
/-
  C03 (defaults): model of the Go composite-literal text `goSliceInitializer` writes for a default value (the closure
  assigned to `ArrayInitializerFunc` in generator/language.go; the name is the one its test gives it) — the braces of the literal come from the VALUE's structure only, never from the text of its strings.
    value ::= string | number text | array of values | object (key, value)*
    render: string ↦ Quote(s)   number ↦ its text   array ↦ { v, v, }   object ↦ { "k":v, "k":v, }
  `skel` is the Go scanner's view of structure: outside string literals everything counts, of a literal only its quotes;
  `skel_render`: the structure of the literal is `shape` of the value.
-/
namespace Gs.Text.Init
open Gs.Text.Tags

inductive V where
  | str (s : Str)
  | num (digits : Str)          -- a JSON number as written (digits, sign, point, exponent: no quote, brace, comma)
  | arr (l : List V)
  | obj (kvs : List (Str × V))

mutual
def render : V → Str
  | .str s => quote s
  | .num d => d
  | .arr l => '{' :: renderList l ++ ['}']
  | .obj kvs => '{' :: renderFields kvs ++ ['}']
def renderList : List V → Str
  | [] => []
  | v :: vs => render v ++ ',' :: renderList vs
def renderFields : List (Str × V) → Str
  | [] => []
  | (k, v) :: kvs => quote k ++ ':' :: render v ++ ',' :: renderFields kvs
end

/-- the Go scanner's view of which characters are structure: everything outside string literals is kept, of a string
    literal only its two quotes (state: 0 outside, 1 inside a string, 2 and above after a backslash inside a string) -/
def skel : Nat → Str → Str
  | _, [] => []
  | 0, '"' :: r => '"' :: skel 1 r
  | 0, c :: r => c :: skel 0 r
  | 1, '\\' :: r => skel 2 r
  | 1, '"' :: r => '"' :: skel 0 r
  | 1, _ :: r => skel 1 r
  | _, _ :: r => skel 1 r

mutual
/-- the value with every string emptied: its pure structure -/
def shape : V → Str
  | .str _ => ['"', '"']
  | .num d => d
  | .arr l => '{' :: shapeList l ++ ['}']
  | .obj kvs => '{' :: shapeFields kvs ++ ['}']
def shapeList : List V → Str
  | [] => []
  | v :: vs => shape v ++ ',' :: shapeList vs
def shapeFields : List (Str × V) → Str
  | [] => []
  | (_, v) :: kvs => '"' :: '"' :: ':' :: shape v ++ ',' :: shapeFields kvs
end

mutual
/-- no number text of the value holds a quote: the hypothesis of `skel_render` -/
def numsOk : V → Bool
  | .str _ => true
  | .num d => !d.contains '"'
  | .arr l => numsOkList l
  | .obj kvs => numsOkFields kvs
def numsOkList : List V → Bool
  | [] => true
  | v :: vs => numsOk v && numsOkList vs
def numsOkFields : List (Str × V) → Bool
  | [] => true
  | (_, v) :: kvs => numsOk v && numsOkFields kvs
end

theorem skel0_cons (c : Char) (h : c ≠ '"') (r : Str) : skel 0 (c :: r) = c :: skel 0 r := by
  rw [skel]
  exact h

theorem skel1_plain (c : Char) (h1 : c ≠ '"') (h2 : c ≠ '\\') (t : Str) : skel 1 (c :: t) = skel 1 t := by
  rw [skel] <;> assumption

theorem skel1_body (s t : Str) : skel 1 (quoteBody s ++ t) = skel 1 t :=
  -- the first argument: a backslash leads to state 2, which skips one character and returns to state 1
  flatMap_skipped (esc_skipped (fun _ _ => by simp only [skel]) fun c h1 h2 _ => skel1_plain c h1 h2) s t

theorem skel_quote (s t : Str) : skel 0 (quote s ++ t) = '"' :: '"' :: skel 0 t := by
  simp only [quote, List.cons_append, List.append_assoc, skel]
  rw [skel1_body]
  simp [skel]

theorem numsOk_num (d : Str) : numsOk (.num d) = true ↔ '"' ∉ d := by
  simp only [numsOk, Bool.not_eq_true', List.contains_eq_mem, decide_eq_false_iff_not]

theorem skel0_noquote (d t : Str) (h : '"' ∉ d) : skel 0 (d ++ t) = d ++ skel 0 t := by
  induction d with
  | nil => rfl
  | cons c cs ih =>
    rw [List.cons_append, skel0_cons c (fun e => h (e ▸ List.mem_cons_self)), ih fun hm => h (List.mem_cons_of_mem _ hm),
      List.cons_append]

theorem skel_braced {body sh : Str} (hb : ∀ t, skel 0 (body ++ t) = sh ++ skel 0 t) (t : Str) :
    skel 0 (('{' :: body ++ ['}']) ++ t) = ('{' :: sh ++ ['}']) ++ skel 0 t := by
  simp only [List.cons_append, List.append_assoc, List.nil_append]
  rw [skel0_cons '{' (by decide), hb, skel0_cons '}' (by decide)]

mutual
/-- **the structure of the literal is the structure of the value**: string contents contribute no brace, comma or colon -/
theorem skel_render : ∀ (v : V) (t : Str), numsOk v = true → skel 0 (render v ++ t) = shape v ++ skel 0 t
  | .str s, t, _ => skel_quote s t
  | .num d, t, h => skel0_noquote d t ((numsOk_num d).mp h)
  | .arr l, t, h => skel_braced (fun t => skel_renderList l t h) t
  | .obj kvs, t, h => skel_braced (fun t => skel_renderFields kvs t h) t
theorem skel_renderList : ∀ (l : List V) (t : Str), numsOkList l = true → skel 0 (renderList l ++ t) = shapeList l ++ skel 0 t
  | [], _, _ => rfl
  | v :: vs, t, h => by
    simp only [numsOkList, Bool.and_eq_true] at h
    simp only [renderList, shapeList, List.append_assoc, List.cons_append]
    rw [skel_render v _ h.1, skel0_cons ',' (by decide), skel_renderList vs t h.2]
theorem skel_renderFields : ∀ (kvs : List (Str × V)) (t : Str), numsOkFields kvs = true →
    skel 0 (renderFields kvs ++ t) = shapeFields kvs ++ skel 0 t
  | [], _, _ => rfl
  | (k, v) :: rest, t, h => by
    simp only [numsOkFields, Bool.and_eq_true] at h
    simp only [renderFields, shapeFields, List.append_assoc, List.cons_append]
    rw [skel_quote, skel0_cons ':' (by decide), skel_render v _ h.1, skel0_cons ',' (by decide),
      skel_renderFields rest t h.2]
end

/-! ### the other rule: rewriting the JSON text (what upstream go-swagger does) -/

/-- its `strings.ReplaceAll` chain on the JSON text: `}`→`,}`, `[`→`{`, `]`→`,}`, then `{,}`→`{}` -/
def fixEmpty : Str → Str
  | '{' :: ',' :: '}' :: r => '{' :: '}' :: fixEmpty r
  | c :: r => c :: fixEmpty r
  | [] => []

def oldInit (json : Str) : Str :=
  fixEmpty (json.flatMap (fun c => if c = '}' then [',', '}'] else if c = '[' then ['{'] else if c = ']' then [',', '}'] else [c]))

end Gs.Text.Init
