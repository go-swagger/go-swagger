import GsModel.Text.Escape
/-
  C09 / C10 — each escaper of `Text/Escape.lean` keeps EVERY text inside the lexical form it is written into:
  `block_safe` (`blockComment` leaves no `*/`), `line_safe` (`padComment` never leaves the `//` lines; `padComment_eq`: the
  Split/Join implementation is the character map `padMap`), `raw_value` (the `escapeBackticks` expression evaluates to the text
  without its carriage returns; `raw_roundtrip` / `embed_rt`: to the text itself when it has none), `escBOM_no_cr`, `escBOM_id`, `escBOM_no_bom` (what `generateReadableSpec` does to byte
  order marks on top of that).
-/
namespace Gs.Text

theorem hasBlockEnd_cons (c : Char) (t : Str) :
    hasBlockEnd (c :: t) = (decide (c = '*' ∧ t.head? = some '/') || hasBlockEnd t) := by
  cases t <;> simp [hasBlockEnd]

theorem blockComment_head (d : Char) (r : Str) :
    (blockComment (d :: r)).head? = some d ∨ (blockComment (d :: r)).head? = some '[' := by
  cases r with
  | nil => exact .inl rfl
  | cons e r =>
    unfold blockComment
    by_cases h : d = '*' ∧ e = '/'
    · rw [if_pos h]; exact .inr rfl
    · rw [if_neg h]; exact .inl rfl

theorem block_safe : ∀ s : Str, hasBlockEnd (blockComment s) = false := by
  intro s
  fun_induction blockComment s with
  | case1 => rfl
  | case2 c => rfl
  | case3 c d r _ ih =>
    -- output: `[*]/` ++ blockComment r: its one `*` is followed by `]`, and none of `[`, `]`, `/` is a `*`
    simp [hasBlockEnd_cons, ih]
  | case4 c d r h ih =>
    -- output: c :: blockComment (d :: r), and `c` begins a `*/` only if `blockComment (d :: r)` begins with `/`
    rw [hasBlockEnd_cons, ih, Bool.or_false, decide_eq_false_iff_not]
    rintro ⟨hc, hd⟩
    rcases blockComment_head d r with e | e
    · exact h ⟨hc, Option.some.inj (e.symm.trans hd)⟩
    · cases e.symm.trans hd

theorem splitOn_ne_nil (sep : Char) (s : Str) : splitOn sep s ≠ [] := by
  cases s with
  | nil => exact List.cons_ne_nil _ _
  | cons c r =>
    unfold splitOn
    split
    · exact List.cons_ne_nil _ _
    · split <;> exact List.cons_ne_nil _ _

theorem joinWith_cons_head (sep : Str) (c : Char) (hd : Str) (tl : List Str) :
    joinWith sep ((c :: hd) :: tl) = c :: joinWith sep (hd :: tl) := by
  cases tl with
  | nil => rfl
  | cons y r => simp [joinWith]

/-- the Split/Join implementation is a character map: every newline is followed by `//` and the pad -/
theorem padComment_eq (pad : Str) : ∀ s, padComment s pad = padMap pad s := by
  intro s
  induction s with
  | nil => rfl
  | cons c r ih =>
    unfold padComment at ih ⊢
    unfold splitOn
    cases h : splitOn '\n' r with
    | nil => exact absurd h (splitOn_ne_nil _ _)
    | cons hd tl =>
      rw [h] at ih
      by_cases hc : c = '\n'
      · subst hc
        simp only [if_true, joinWith, padMap, List.nil_append, List.cons_append, ih]
      · simp only [hc, if_false, joinWith_cons_head, padMap, ih]

theorem inLC_newline (t : Str) : inLC 0 ('\n' :: '/' :: '/' :: t) = inLC 0 t := rfl

theorem inLC_other (c : Char) (h : c ≠ '\n') (t : Str) : inLC 0 (c :: t) = inLC 0 t := by
  rw [inLC, if_neg (Nat.lt_irrefl 0), if_neg h]

theorem inLC_pad (pad t : Str) (hp : '\n' ∉ pad) : inLC 0 (pad ++ t) = inLC 0 t := by
  induction pad with
  | nil => rfl
  | cons c p ih =>
    rw [List.cons_append, inLC_other c (fun e => hp (e ▸ List.mem_cons_self)), ih (fun e => hp (List.mem_cons_of_mem _ e))]

theorem padMap_safe (pad : Str) (hp : '\n' ∉ pad) (s : Str) : inLC 0 (padMap pad s) = true := by
  induction s with
  | nil => rfl
  | cons c r ih =>
    unfold padMap
    by_cases hc : c = '\n'
    · rw [if_pos hc, inLC_newline, inLC_pad pad _ hp, ih]
    · rw [if_neg hc, inLC_other c hc, ih]

/-- `comment`: whatever the text, the rendered comment never leaves the `//` lines -/
theorem line_safe (s pad : Str) (hp : '\n' ∉ pad) : inLineComments (padComment s pad) = true := by
  rw [inLineComments, padComment_eq]; exact padMap_safe pad hp s

/-- the Go expression `escapeBackticks` writes evaluates, for EVERY text, to the text without its carriage returns (which a
    raw string literal drops) -/
theorem raw_value (s : Str) : evalSt 0 (escBacktick s ++ ['`']) = some (s.filter (· ≠ '\r')) := by
  induction s with
  | nil => rfl
  | cons c r ih =>
    unfold escBacktick
    by_cases hb : c = '`'
    · rw [if_pos hb, hb]
      -- the machine runs through the connector and yields one backtick
      show (evalSt 0 (escBacktick r ++ ['`'])).map ('`' :: ·) = _
      rw [ih]
      rfl
    · rw [if_neg hb, List.cons_append, evalSt, if_pos rfl, if_neg hb, ih, Option.map_some, List.filter_cons]
      by_cases hc : c = '\r' <;> simp [hc]

/-- a text without carriage return comes back as it is -/
theorem raw_roundtrip : ∀ s : Str, '\r' ∉ s → evalSt 0 (escBacktick s ++ ['`']) = some s := by
  intro s h
  rw [raw_value]
  exact congrArg some (List.filter_eq_self.mpr fun c hc => decide_eq_true (p := c ≠ '\r') fun e => h (e ▸ hc))

theorem embed_rt (s : Str) (h : '\r' ∉ s) : evalGo ('`' :: escBacktick s ++ ['`']) = some s :=
  raw_roundtrip s h

theorem mem_escBOM {x : Char} (hx : x ∉ ['\\', 'u', 'f', 'e', 'f', 'f']) (s : Str) (h : x ∈ escBOM s) :
    x ≠ '\uFEFF' ∧ x ∈ s := by
  induction s with
  | nil => cases h
  | cons c r ih =>
    unfold escBOM at h
    by_cases hc : c = '\uFEFF'
    · rw [if_pos hc] at h
      exact (ih ((List.mem_append.mp h).resolve_left hx)).imp_right (List.mem_cons_of_mem _)
    · rw [if_neg hc] at h
      rcases List.mem_cons.mp h with e | h
      · exact ⟨e ▸ hc, e ▸ List.mem_cons_self⟩
      · exact (ih h).imp_right (List.mem_cons_of_mem _)

theorem escBOM_no_cr (s : Str) (h : '\r' ∉ s) : '\r' ∉ escBOM s :=
  fun hm => h (mem_escBOM (by decide) s hm).2

theorem escBOM_no_bom (s : Str) : '\uFEFF' ∉ escBOM s :=
  fun hm => (mem_escBOM (by decide) s hm).1 rfl

theorem escBOM_id (s : Str) (h : '\uFEFF' ∉ s) : escBOM s = s := by
  induction s with
  | nil => rfl
  | cons c r ih =>
    have hc : c ≠ '\uFEFF' := fun e => h (e ▸ List.mem_cons_self)
    rw [escBOM, if_neg hc, ih fun e => h (List.mem_cons_of_mem _ e)]

end Gs.Text
