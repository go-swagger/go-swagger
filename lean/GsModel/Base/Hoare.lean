import GsModel.Base.Outcome
/-
  Triples for the `Outcome` monad.  `Holds P x` says "if `x` returns normally, the result satisfies `P`" (partial
  correctness); `Meets V F P x` says in addition when `x` may panic and when it may run out of fuel.  The rules are proved
  for `Meets`; `Holds P x ↔ Meets False False P x` (`Holds.meets`, `Meets.holds`) carries them over to `Holds`.
-/
namespace Gs
namespace Outcome

def Holds {α} (P : α → Prop) : Outcome α → Prop
  | .ok a => P a
  | _ => True

@[simp] theorem holds_ok {α} (P : α → Prop) (a : α) : Holds P (.ok a) = P a := rfl
@[simp] theorem holds_panic {α} (P : α → Prop) (w : String) : Holds P (.panic w) = True := rfl
@[simp] theorem holds_fuel {α} (P : α → Prop) : Holds P (.fuel : Outcome α) = True := rfl

@[simp] theorem ok_bind' {α β} (a : α) (f : α → Outcome β) : (Outcome.ok a).bind f = f a := rfl

/-! ### the general triple

  `Meets V F P x`: if `x` returns, the result satisfies `P`; `x` panics only if `V` fails and runs out of fuel only if `F`
  fails.  `V` and `F` stand for "the assumptions that exclude a panic / that bound the recursion are in force", so one proof
  about a function gives its partial correctness (`V := F := False`), its safety (`V := True`) and its termination
  (`F := True`) at once; hypotheses needed for one of them only are stated under `V →` or `F →`. -/

def Meets {α} (V F : Prop) (P : α → Prop) : Outcome α → Prop
  | .ok a => P a
  | .panic _ => ¬V
  | .fuel => ¬F

section
universe u
variable {α β : Type} {ι : Type u} {V F : Prop}

theorem Meets.bind {P : α → Prop} {Q : β → Prop} {x : Outcome α} {f : α → Outcome β}
    (hx : Meets V F P x) (hf : ∀ a, P a → Meets V F Q (f a)) : Meets V F Q (x.bind f) := by
  cases x with
  | ok a => exact hf a hx
  | panic w => exact hx
  | fuel => exact hx

theorem Meets.mono {P Q : α → Prop} {x : Outcome α} (hx : Meets V F P x) (h : ∀ a, P a → Q a) : Meets V F Q x := by
  cases x with
  | ok a => exact h a hx
  | panic w => exact hx
  | fuel => exact hx

/-- sequencing after a step of which nothing is needed but that it meets `V` and `F` -/
theorem Meets.andThen {Q : β → Prop} {x : Outcome α} {f : α → Outcome β}
    (hx : Meets V F (fun _ => True) x) (hf : ∀ a, Meets V F Q (f a)) : Meets V F Q (x.bind f) :=
  hx.bind (fun a _ => hf a)

theorem meets_ite {P : α → Prop} {c : Prop} [Decidable c] {a b : Outcome α}
    (ha : c → Meets V F P a) (hb : ¬c → Meets V F P b) : Meets V F P (if c then a else b) := by
  by_cases h : c
  · rw [if_pos h]
    exact ha h
  · rw [if_neg h]
    exact hb h

theorem foldlM_meets (P : β → Prop) (f : β → ι → Outcome β) (l : List ι) (b : β) (hb : P b)
    (hf : ∀ b a, a ∈ l → P b → Meets V F P (f b a)) : Meets V F P (foldlM f b l) := by
  induction l generalizing b with
  | nil => exact hb
  | cons a as ih =>
    exact (hf b a List.mem_cons_self hb).bind
      (fun b' hb' => ih b' hb' (fun b a ha => hf b a (List.mem_cons_of_mem _ ha)))

theorem Meets.isOk {P : α → Prop} {x : Outcome α} (hx : Meets True True P x) : x.isOk = true := by
  cases x with
  | ok a => rfl
  | panic w => exact (hx trivial).elim
  | fuel => exact (hx trivial).elim

theorem Meets.holds {P : α → Prop} {x : Outcome α} (hx : Meets V F P x) : Holds P x := by
  cases x with
  | ok a => exact hx
  | panic w => trivial
  | fuel => trivial

theorem Holds.meets {P : α → Prop} {x : Outcome α} (hx : Holds P x) : Meets False False P x := by
  cases x with
  | ok a => exact hx
  | panic w => exact id
  | fuel => exact id

theorem Holds.bind {P : α → Prop} {Q : β → Prop} {x : Outcome α} {f : α → Outcome β}
    (hx : Holds P x) (hf : ∀ a, P a → Holds Q (f a)) : Holds Q (x.bind f) :=
  (hx.meets.bind (fun a h => (hf a h).meets)).holds

theorem Holds.mono {P Q : α → Prop} {x : Outcome α} (hx : Holds P x) (h : ∀ a, P a → Q a) : Holds Q x :=
  (hx.meets.mono h).holds

theorem Holds.skip {Q : β → Prop} {x : Outcome α} {f : α → Outcome β} (hf : ∀ a, Holds Q (f a)) : Holds Q (x.bind f) := by
  cases x with
  | ok a => exact hf a
  | panic w => trivial
  | fuel => trivial

theorem Holds.false_bind {Q : β → Prop} {x : Outcome α} (f : α → Outcome β) (h : Holds (fun _ => False) x) : Holds Q (x.bind f) :=
  h.bind (fun _ h => h.elim)

theorem foldlM_holds (P : β → Prop) (f : β → ι → Outcome β) (l : List ι) (b : β) (hb : P b)
    (hf : ∀ b a, a ∈ l → P b → Holds P (f b a)) : Holds P (foldlM f b l) :=
  (foldlM_meets P f l b hb (fun b a ha hb => (hf b a ha hb).meets)).holds

end
end Outcome

theorem foldl_inv {α β} (P : β → Prop) (f : β → α → β) (l : List α) (b : β) (hb : P b)
    (hf : ∀ b a, a ∈ l → P b → P (f b a)) : P (l.foldl f b) := by
  induction l generalizing b with
  | nil => exact hb
  | cons a as ih =>
    exact ih (f b a) (hf b a List.mem_cons_self hb) (fun b a ha => hf b a (List.mem_cons_of_mem _ ha))

end Gs
