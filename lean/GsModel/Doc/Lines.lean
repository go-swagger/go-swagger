import GsModel.Params.Bind
/-
  C18 — the validation lines the model templates print into doc comments (`propertyValidationDocString`) and the
  recognisers of the scanner that read them back (codescan taggers: rxMaximumFmt, rxMinimumFmt, rxMultipleOfFmt,
  rxMaxLengthFmt, … + strconv.ParseFloat / ParseInt).
  Numbers: a decimal value is (sign, integer part, fraction digits).  text/template prints a *float64 with fmt's %v, i.e.
  strconv 'g' with the shortest digits: plain decimal when the decimal exponent X of the first significant digit satisfies
  -4 ≤ X < 6, scientific notation (`1e+06`, `1e-05`) otherwise.
-/
namespace Gs.Doc
open Gs.Params

structure Dec where
  neg : Bool := false
  int : Nat := 0
  frac : List Nat := []     -- fraction digits, most significant first, no trailing zero
  deriving DecidableEq, Repr

def Dec.wf (d : Dec) : Bool := d.frac.all (· < 10) && (d.frac.getLast?.getD 1 != 0) && !(d.neg && d.int == 0 && d.frac == [])

def digitsOf (n : Nat) : Str := (toString n).toList
def fracText (ds : List Nat) : Str := ds.map Nat.digitChar

def leadingZeros : List Nat → Nat
  | 0 :: r => leadingZeros r + 1
  | _ => 0

/-- decimal exponent of the first significant digit (0 for the value zero) -/
def Dec.expo (d : Dec) : Int :=
  if d.int > 0 then ((digitsOf d.int).length : Int) - 1
  else if d.frac = [] then 0 else -((leadingZeros d.frac : Int) + 1)

def Dec.plain (d : Dec) : Bool := decide (-4 ≤ d.expo) && decide (d.expo < 6)

def sign (d : Dec) : Str := if d.neg then ['-'] else []

def plainText (d : Dec) : Str :=
  sign d ++ digitsOf d.int ++ (if d.frac = [] then [] else '.' :: fracText d.frac)

/-- significant digits of the value, without leading zeros -/
def sigDigits (d : Dec) : Str :=
  if d.int > 0 then digitsOf d.int ++ fracText d.frac else fracText (d.frac.drop (leadingZeros d.frac))

def stripTrailingZeros (s : Str) : Str := (s.reverse.dropWhile (· = '0')).reverse

def two (n : Nat) : Str := if n < 10 then '0' :: digitsOf n else digitsOf n

def sciText (d : Dec) : Str :=
  let sd := stripTrailingZeros (sigDigits d)
  let mant := match sd with
    | [] => ['0']
    | [c] => [c]
    | c :: r => c :: '.' :: r
  sign d ++ mant ++ ['e'] ++ (if d.expo < 0 then '-' :: two d.expo.natAbs else '+' :: two d.expo.natAbs)

/-- fmt %v of the float64 -/
def fmtV (d : Dec) : Str := if d.plain then plainText d else sciText d

/-- the number sub-expression of the scanner's regexps: `[\+-]?(?:\p{N}+\.)?\p{N}+` (anchored by the rest of the regexp) -/
def allDigits (s : Str) : Bool := s ≠ [] && s.all Char.isDigit

def unsignedOk (s : Str) : Bool :=
  match splitOn '.' s with
  | [a] => allDigits a
  | [a, b] => allDigits a && allDigits b
  | _ => false

def isPlainDecimal (s : Str) : Bool :=
  match s with
  | '-' :: r => unsignedOk r
  | '+' :: r => unsignedOk r
  | r => unsignedOk r

def digitOf (c : Char) : Nat := c.toNat - '0'.toNat

/-- strconv.ParseFloat on a string the regexp admitted, kept exact as a Dec -/
def parseUnsigned (neg : Bool) (s : Str) : Option Dec :=
  match splitOn '.' s with
  | [a] => (digitsVal a).map (fun n => { neg := neg && n != 0, int := n, frac := [] })
  | [a, b] => (digitsVal a).map (fun n =>
      let f := (stripTrailingZeros b).map digitOf
      { neg := neg && !(n == 0 && f == []), int := n, frac := f })
  | _ => none

def parseDec (s : Str) : Option Dec :=
  if !isPlainDecimal s then none else
  match s with
  | '-' :: r => parseUnsigned true r
  | '+' :: r => parseUnsigned false r
  | r => parseUnsigned false r

/-! ### lines -/

inductive Line where
  | maximum (v : Dec) (excl : Bool)
  | minimum (v : Dec) (excl : Bool)
  | multipleOf (v : Dec)
  | maxLength (n : Nat) | minLength (n : Nat) | maxItems (n : Nat) | minItems (n : Nat)
  | unique | required | readOnly
  deriving DecidableEq, Repr

/-- keyword, optional operator, value text -/
structure Tok where
  kw : String
  op : String := ""
  val : Str
  deriving DecidableEq, Repr

def emit : Line → Tok
  | .maximum v e => { kw := "Maximum", op := if e then "<" else "", val := fmtV v }
  | .minimum v e => { kw := "Minimum", op := if e then ">" else "", val := fmtV v }
  | .multipleOf v => { kw := "Multiple Of", val := fmtV v }
  | .maxLength n => { kw := "Max Length", val := digitsOf n }
  | .minLength n => { kw := "Min Length", val := digitsOf n }
  | .maxItems n => { kw := "Max Items", val := digitsOf n }
  | .minItems n => { kw := "Min Items", val := digitsOf n }
  | .unique => { kw := "Unique", val := "true".toList }
  | .required => { kw := "Required", val := "true".toList }
  | .readOnly => { kw := "Read Only", val := "true".toList }

/-- what the taggers make of a line; `multipleOfApplied` is read from the scanner (setMultipleOf tested `len(matches) > 2`
    against a regexp with one group on the pinned tree, so the value was never applied) -/
def parse (multipleOfApplied : Bool) (t : Tok) : Option Line :=
  match t.kw with
  | "Maximum" => (parseDec t.val).map (fun v => .maximum v (t.op == "<"))
  | "Minimum" => (parseDec t.val).map (fun v => .minimum v (t.op == ">"))
  | "Multiple Of" => if multipleOfApplied then (parseDec t.val).map .multipleOf else none
  | "Max Length" => if allDigits t.val then (digitsVal t.val).map .maxLength else none
  | "Min Length" => if allDigits t.val then (digitsVal t.val).map .minLength else none
  | "Max Items" => if allDigits t.val then (digitsVal t.val).map .maxItems else none
  | "Min Items" => if allDigits t.val then (digitsVal t.val).map .minItems else none
  | "Unique" => if t.val = "true".toList then some .unique else none
  | "Required" => if t.val = "true".toList then some .required else none
  | "Read Only" => if t.val = "true".toList then some .readOnly else none
  | _ => none

end Gs.Doc
