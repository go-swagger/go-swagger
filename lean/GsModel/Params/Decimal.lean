import GsModel.Params.Bind
/-
  Decimal text of integers: `parseInt` (the model of strconv.ParseInt as used by swag.ConvertInt32/64) inverts the
  decimal formatter (`toString` on Int, the model of strconv.FormatInt / swag.FormatInt64).
-/
namespace Gs.Params

theorem toString_toList (n : Nat) : (toString n).toList = Nat.toDigits 10 n := Nat.toList_repr

theorem isDigit_of_mem_toString {n : Nat} {c : Char} (h : c ∈ (toString n).toList) : c.isDigit = true :=
  Nat.isDigit_of_mem_toDigits (by decide) (by decide) (toString_toList n ▸ h)

def stepD (acc : Option Nat) (c : Char) : Option Nat :=
  match acc with
  | none => none
  | some n => if c.isDigit then some (n * 10 + (c.toNat - '0'.toNat)) else none

theorem digitsVal_eq (cs : Str) (h : cs ≠ []) : digitsVal cs = cs.foldl stepD (some 0) := by
  cases cs with
  | nil => exact absurd rfl h
  | cons c r => rfl

theorem digitChar_ok : ∀ d, d < 10 → (Nat.digitChar d).isDigit = true ∧ (Nat.digitChar d).toNat - '0'.toNat = d := by decide

theorem stepD_digit (a d : Nat) (h : d < 10) : stepD (some a) (Nat.digitChar d) = some (a * 10 + d) := by
  have ⟨h1, h2⟩ := digitChar_ok d h
  simp only [stepD, h1, h2, if_true]

theorem foldl_toDigits (n : Nat) : (Nat.toDigits 10 n).foldl stepD (some 0) = some n := by
  induction n using Nat.strongRecOn with | _ n ih => ?_
  rw [Nat.toDigits_eq_if (by decide)]
  by_cases h : n < 10
  · rw [if_pos h, List.foldl_cons, List.foldl_nil, stepD_digit 0 n h, Nat.zero_mul, Nat.zero_add]
  · rw [if_neg h, List.foldl_append, ih (n / 10) (Nat.div_lt_self (by omega) (by decide)), List.foldl_cons, List.foldl_nil,
      stepD_digit (n / 10) (n % 10) (Nat.mod_lt n (by decide)), Nat.div_add_mod']

theorem digitsVal_toDigits (n : Nat) : digitsVal (Nat.toDigits 10 n) = some n := by
  rw [digitsVal_eq _ Nat.toDigits_ne_nil, foldl_toDigits]

theorem digitsVal_repr (n : Nat) : digitsVal (toString n).toList = some n := by
  rw [toString_toList, digitsVal_toDigits]

theorem head_not_sign (n : Nat) : ∀ c r, (toString n).toList = c :: r → c ≠ '-' ∧ c ≠ '+' := by
  intro c r h
  have hd : c.isDigit = true := isDigit_of_mem_toString (n := n) (by rw [h]; exact List.mem_cons_self)
  constructor <;> (rintro rfl; cases hd)

/-- the decimal codec of integers, for every value in the range of the declared width -/
theorem parseInt_toString (bits : Nat) (n : Int) (hlo : -(2 : Int) ^ (bits - 1) ≤ n) (hhi : n < (2 : Int) ^ (bits - 1)) :
    parseInt bits (toString n).toList = some n := by
  cases n with
  | ofNat m =>
    rw [Int.ofNat_eq_natCast] at hlo hhi ⊢
    show parseInt bits (toString m).toList = some (m : Int)
    unfold parseInt
    split
    · rename_i heq; exact absurd rfl (head_not_sign m _ _ heq).1
    · rename_i heq; exact absurd rfl (head_not_sign m _ _ heq).2
    · simp [digitsVal_toDigits, hlo, hhi]
  | negSucc m =>
    have hs : (toString (Int.negSucc m)).toList = '-' :: (toString (m + 1)).toList := by
      show ("-" ++ toString (Nat.succ m)).toList = _
      simp [String.toList_append]
    have e : -((m : Int) + 1) = Int.negSucc m := by omega
    rw [hs]
    unfold parseInt
    simp [digitsVal_toDigits, e, hlo, hhi]

end Gs.Params
