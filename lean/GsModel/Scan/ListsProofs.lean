import GsModel.Scan.Lists
/-
  Lemmas about `Scan/Lists.lean`: `splitOn` through its equation `splitOn_cons` (pieces are separator-free, joined or
  flattened they give the input back, and `splitOn_intercalate` the other way round), `trim`, `fields`.
-/
namespace Gs.Scan

theorem splitOn_ne_nil (p : Char → Bool) (s : Str) : splitOn p s ≠ [] := by
  cases s with
  | nil => simp [splitOn]
  | cons c r =>
    unfold splitOn
    split
    · simp
    · split <;> simp

/-- the defining equation without its dead branch: the split of the rest is never empty -/
theorem splitOn_cons (p : Char → Bool) (c : Char) (r : Str) :
    ∃ t ts, splitOn p r = t :: ts ∧ splitOn p (c :: r) = if p c then [] :: t :: ts else (c :: t) :: ts := by
  cases h : splitOn p r with
  | nil => exact absurd h (splitOn_ne_nil p r)
  | cons t ts => exact ⟨t, ts, rfl, by simp only [splitOn, h]⟩

theorem splitOn_free (p : Char → Bool) (t : Str) (h : ∀ c ∈ t, p c = false) : splitOn p t = [t] := by
  induction t with
  | nil => rfl
  | cons c r ih =>
    obtain ⟨t, ts, hr, hc⟩ := splitOn_cons p c r
    rw [ih (fun x hx => h x (List.mem_cons_of_mem _ hx))] at hr
    cases hr
    simp [hc, h c List.mem_cons_self]

theorem splitOn_append (p : Char → Bool) (t : Str) (c : Char) (r : Str) (h : ∀ x ∈ t, p x = false) (hc : p c = true) :
    splitOn p (t ++ c :: r) = t :: splitOn p r := by
  induction t with
  | nil => simp [splitOn, hc]
  | cons d t ih =>
    obtain ⟨u, us, hr, hd⟩ := splitOn_cons p d (t ++ c :: r)
    rw [ih (fun x hx => h x (List.mem_cons_of_mem _ hx))] at hr
    cases hr
    simp [hd, h d List.mem_cons_self]

/-- the pieces, put end to end, are the input without its separators -/
theorem flatten_splitOn (p : Char → Bool) (s : Str) : (splitOn p s).flatten = s.filter (fun c => !p c) := by
  induction s with
  | nil => rfl
  | cons c r ih =>
    obtain ⟨t, ts, hr, hc⟩ := splitOn_cons p c r
    rw [hr] at ih
    rw [hc, List.filter_cons, ← ih]
    cases p c <;> rfl

theorem splitOn_items_free (p : Char → Bool) (s : Str) : ∀ t ∈ splitOn p s, ∀ c ∈ t, p c = false := by
  intro t ht c hc
  have h : c ∈ (splitOn p s).flatten := List.mem_flatten.mpr ⟨t, ht, hc⟩
  rw [flatten_splitOn] at h
  simpa using (List.mem_filter.mp h).2

theorem intercalate_cons_cons (sep : Char) (t u : Str) (us : List Str) :
    [sep].intercalate (t :: u :: us) = t ++ sep :: [sep].intercalate (u :: us) := by
  simp [List.intercalate, List.intersperse]

/-- nothing is lost by the split: the pieces joined by the separator are the input -/
theorem splitOn_join (sep : Char) (s : Str) : [sep].intercalate (splitOn (· = sep) s) = s := by
  induction s with
  | nil => rfl
  | cons c r ih =>
    obtain ⟨t, ts, hr, hc⟩ := splitOn_cons (· = sep) c r
    rw [hr] at ih
    rw [hc]
    by_cases h : c = sep
    · rw [if_pos (decide_eq_true h), intercalate_cons_cons, ih, h]; rfl
    · rw [if_neg (mt of_decide_eq_true h)]
      cases ts with
      | nil => simpa [List.intercalate] using ih
      | cons u us => rw [intercalate_cons_cons] at ih ⊢; rw [← ih]; rfl

theorem splitOn_intercalate (sep : Char) (pieces : List Str) (hne : pieces ≠ [])
    (h : ∀ t ∈ pieces, ∀ c ∈ t, c ≠ sep) : splitOn (· = sep) ([sep].intercalate pieces) = pieces := by
  induction pieces with
  | nil => exact absurd rfl hne
  | cons t rest ih =>
    have ht : ∀ x ∈ t, (fun c => decide (c = sep)) x = false := fun x hx => by simpa using h t (by simp) x hx
    cases rest with
    | nil => simpa [List.intercalate, List.intersperse] using splitOn_free _ t ht
    | cons u us =>
      rw [intercalate_cons_cons, splitOn_append _ t sep _ ht (by simp), ih (by simp) (fun t' ht' => h t' (by simp [ht']))]

theorem dropWhile_all (sp : Char → Bool) (a : Str) (h : ∀ c ∈ a, sp c = true) : a.dropWhile sp = [] := by
  simpa using List.dropWhile_append_of_pos (l₂ := []) h

theorem dropWhile_free_head (sp : Char → Bool) (t s : Str) (ht : t ≠ []) (h : ∀ c ∈ t, sp c = false) :
    (t ++ s).dropWhile sp = t ++ s := by
  cases t with
  | nil => exact absurd rfl ht
  | cons c r => simp [h c (by simp)]

/-- blanks around a blank-free token are trimmed away, and nothing else -/
theorem trim_padded (sp : Char → Bool) (a t b : Str) (ha : ∀ c ∈ a, sp c = true) (hb : ∀ c ∈ b, sp c = true)
    (ht : ∀ c ∈ t, sp c = false) : trim sp (a ++ t ++ b) = t := by
  unfold trim
  rw [List.append_assoc, List.dropWhile_append_of_pos ha]
  by_cases hte : t = []
  · subst hte
    simp [dropWhile_all sp b hb]
  · rw [dropWhile_free_head sp t b hte ht, List.reverse_append,
      List.dropWhile_append_of_pos (fun c hc => hb c (by simpa using hc))]
    have hr : t.reverse ≠ [] := by simpa using hte
    have := dropWhile_free_head sp t.reverse [] hr (fun c hc => ht c (by simpa using hc))
    simp only [List.append_nil] at this
    rw [this, List.reverse_reverse]

theorem fields_cons_blank (sp : Char → Bool) (c : Char) (r : Str) (hc : sp c = true) : fields sp (c :: r) = fields sp r := by
  simp [fields, splitOn, hc]

theorem fields_pad (sp : Char → Bool) (pad s : Str) (h : ∀ c ∈ pad, sp c = true) :
    fields sp (pad ++ s) = fields sp s := by
  induction pad with
  | nil => rfl
  | cons c r ih => rw [List.cons_append, fields_cons_blank sp c _ (h c (by simp)), ih (fun x hx => h x (by simp [hx]))]

theorem fields_nil (sp : Char → Bool) : fields sp [] = [] := rfl

theorem fields_free (sp : Char → Bool) (t : Str) (hne : t ≠ []) (h : ∀ c ∈ t, sp c = false) :
    fields sp t = [t] := by
  unfold fields
  rw [splitOn_free sp t h]
  cases t with
  | nil => exact absurd rfl hne
  | cons c r => simp

theorem fields_tok (sp : Char → Bool) (t : Str) (c : Char) (r : Str) (hne : t ≠ []) (h : ∀ x ∈ t, sp x = false)
    (hc : sp c = true) : fields sp (t ++ c :: r) = t :: fields sp (c :: r) := by
  rw [fields_cons_blank sp c r hc]
  unfold fields
  rw [splitOn_append sp t c r h hc]
  cases t with
  | nil => exact absurd rfl hne
  | cons d ds => simp

end Gs.Scan
