/-
  C07 — iteration-order independence, generic part.
  A Go map is an association list with distinct keys; one execution of `for k, v := range m` visits SOME permutation of it.
  A loop is order-independent when its result is the same for every permutation.
-/
namespace Gs.Order
open List

/-- collect-then-sort: whatever the visiting order, sorting the collected items gives one list.  `le` must be a total
    preorder that is antisymmetric ON THE ITEMS COLLECTED (e.g. a key order over items with distinct keys). -/
theorem sort_indep {α} (le : α → α → Bool)
    (trans : ∀ a b c, le a b → le b c → le a c) (total : ∀ a b, le a b || le b a)
    {l₁ l₂ : List α} (h : l₁ ~ l₂)
    (anti : ∀ a b, a ∈ l₁ → b ∈ l₁ → le a b → le b a → a = b) :
    mergeSort l₁ le = mergeSort l₂ le := by
  apply Perm.eq_of_pairwise (le := fun a b => le a b = true)
  · intro a b ha hb hab hba
    have ha' : a ∈ l₁ := (mergeSort_perm l₁ le).mem_iff.mp ha
    have hb' : b ∈ l₁ := h.mem_iff.mpr ((mergeSort_perm l₂ le).mem_iff.mp hb)
    exact anti a b ha' hb' hab hba
  · exact pairwise_mergeSort trans total l₁
  · exact pairwise_mergeSort trans total l₂
  · exact ((mergeSort_perm l₁ le).trans h).trans (mergeSort_perm l₂ le).symm

/-- the loop shape `for k, v := range m { out = append(out, f(k, v)) }; sort(out)` -/
theorem collect_sort_indep {κ β α} (f : κ × β → α) (le : α → α → Bool)
    (trans : ∀ a b c, le a b → le b c → le a c) (total : ∀ a b, le a b || le b a)
    {m₁ m₂ : List (κ × β)} (h : m₁ ~ m₂)
    (anti : ∀ a b, a ∈ m₁.map f → b ∈ m₁.map f → le a b → le b a → a = b) :
    mergeSort (m₁.map f) le = mergeSort (m₂.map f) le :=
  sort_indep le trans total (h.map f) anti

/-- sort.Strings -/
def leStr (a b : String) : Bool := decide (a ≤ b)

theorem leStr_trans (a b c : String) : leStr a b → leStr b c → leStr a c := by
  simp only [leStr, decide_eq_true_eq]; exact String.le_trans
theorem leStr_total (a b : String) : leStr a b || leStr b a := by
  simp only [leStr, Bool.or_eq_true, decide_eq_true_eq]; exact String.le_total a b
theorem leStr_anti (a b : String) : leStr a b → leStr b a → a = b := by
  simp only [leStr, decide_eq_true_eq]; exact String.le_antisymm

/-- `for k := range m { keys = append(keys, k) }; sort.Strings(keys)` does not depend on the visiting order -/
theorem keys_sorted_indep {β} {m₁ m₂ : List (String × β)} (h : m₁ ~ m₂) :
    mergeSort (m₁.map (·.1)) leStr = mergeSort (m₂.map (·.1)) leStr :=
  collect_sort_indep (·.1) leStr leStr_trans leStr_total h (fun a b _ _ => leStr_anti a b)

/-- existential loops (`for _, v := range m { if p v { found = true; break } }`) -/
theorem any_indep {α} (p : α → Bool) {l₁ l₂ : List α} (h : l₁ ~ l₂) : l₁.any p = l₂.any p := h.any_eq

/-- commutative folds (counters, or-ed flags) -/
theorem count_indep {α} (p : α → Bool) {l₁ l₂ : List α} (h : l₁ ~ l₂) : l₁.countP p = l₂.countP p := h.countP_eq p

/- map / set writes: one write per visited entry into another map (a map as a function from keys).  With distinct
    source keys, what ends up under every key does not depend on the visiting order. -/
def put {β} (m : String → Option β) (kv : String × β) : String → Option β := fun k => if k = kv.1 then some kv.2 else m k

def writeAll {β} (dst : String → Option β) (src : List (String × β)) : String → Option β := src.foldl put dst

theorem put_comm {β} (m : String → Option β) (x y : String × β) (h : x.1 = y.1 → x = y) : put (put m x) y = put (put m y) x := by
  funext k
  unfold put
  by_cases hx : k = x.1
  · by_cases hy : k = y.1
    · rw [h (hx.symm.trans hy)]
    · simp only [if_pos hx, if_neg hy]
  · simp only [if_neg hx]

theorem writeAll_indep {β} (dst : String → Option β) {m₁ m₂ : List (String × β)} (h : m₁ ~ m₂)
    (distinct : ∀ x ∈ m₁, ∀ y ∈ m₁, x.1 = y.1 → x = y) : writeAll dst m₁ = writeAll dst m₂ :=
  h.foldl_eq' (fun x hx y hy z => put_comm z x y (distinct x hx y hy)) dst

end Gs.Order
