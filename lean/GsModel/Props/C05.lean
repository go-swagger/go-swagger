import GsModel.Schema.Valid
/-
  C05 — Model JSON serialization round-trips without loss.

  `tolerated d n s j j'` is the relation the property allows between a valid document `j` and its decode/encode image `j'`
  (an optional property holding a zero value or null may be omitted, an absent declared property that is array-typed or
  optional may come back as null, undeclared properties are dropped where the schema has no additionalProperties; nothing else is added or changed).
  Proved about the relation, for ALL schemas and documents:
  * `required_kept`   — a declared required property of the input is never omitted by a tolerated image.
  * `nothing_added`   — every member of a tolerated image comes from the input, or is a null standing for an absent declared
                        property.
  * `scalars_unchanged` — a tolerated image of a string is that string.
  * `examples`        — the documented differences are tolerated, a changed value / lost required property / invented member are not.
  The tie to the generated (un)marshallers is behavioural: compiled generated models are run on valid instances,
  json.Marshal(json.Unmarshal(doc)) must be tolerated, and a second pass must reproduce the first output byte for byte
  (idempotence is checked on the real code, not proved).  A model of the generated serializers is not built: partial.
-/
namespace Gs.Props.C05
open Gs Gs.Schema

theorem required_kept (d : Defs) (n : Nat) (s : Schema) (kvs kvs' : List (String × J)) (k : String) (v : J)
    (ht : tolerated d (n+1) s (.obj kvs) (.obj kvs') = true)
    (hk : (k, v) ∈ kvs) (hdecl : (lookup (allProps d n (deref d n s)) k).isSome = true)
    (hreq : (allRequired d n (deref d n s)).contains k = true) : (lookup kvs' k).isSome = true := by
  unfold tolerated at ht
  simp only [Bool.and_eq_true, List.all_eq_true] at ht
  have h := ht.1 (k, v) hk
  -- a declared member that the image lacks must not be required
  cases hl : lookup kvs' k with
  | some _ => rfl
  | none =>
    cases hp : lookup (allProps d n (deref d n s)) k with
    | none => rw [hp] at hdecl; cases hdecl
    | some ps => simp only [hl, hp, hreq, Bool.not_true, Bool.false_and, Bool.false_eq_true] at h

theorem nothing_added (d : Defs) (n : Nat) (s : Schema) (kvs kvs' : List (String × J)) (k : String) (v' : J)
    (ht : tolerated d (n+1) s (.obj kvs) (.obj kvs') = true) (hk : (k, v') ∈ kvs') :
    (lookup kvs k).isSome = true ∨ (isNull v' = true ∧ (lookup (allProps d n (deref d n s)) k).isSome = true) := by
  unfold tolerated at ht
  simp only [Bool.and_eq_true, List.all_eq_true] at ht
  have h := ht.2 (k, v') hk
  simp only [Bool.or_eq_true] at h
  refine h.imp_right fun h => ?_
  cases hp : lookup (allProps d n (deref d n s)) k with
  | none => rw [hp] at h; cases h
  | some ps =>
    rw [hp, Bool.and_eq_true] at h
    exact ⟨h.1, rfl⟩

theorem scalars_unchanged (d : Defs) (n : Nat) (s : Schema) (a b : String) (h : tolerated d (n+2) s (.str a) (.str b) = true) : a = b := by
  unfold tolerated at h
  simpa [J.beq] using h

/-! ### the relation on concrete cases -/

def petProps : List (String × Schema) :=
  [("name", { ty := "string" }), ("age", { ty := "integer" }), ("tags", { ty := "array", items := some { ty := "string" } })]
def petS : Schema := { ty := "object", required := ["name"], props := petProps }

theorem examples :
    -- optional zero value omitted, absent array rendered as null, undeclared property dropped
    tolerated [] 9 petS (.obj [("name", .str "x"), ("age", .num 0), ("zz", .num 1000)]) (.obj [("name", .str "x"), ("tags", .null)]) = true ∧
    -- identity
    tolerated [] 9 petS (.obj [("name", .str "x"), ("age", .num 3000)]) (.obj [("name", .str "x"), ("age", .num 3000)]) = true ∧
    -- a required property may not be omitted, even when it holds the zero value
    tolerated [] 9 petS (.obj [("name", .str "")]) (.obj []) = false ∧
    -- a non-zero optional value may not be lost
    tolerated [] 9 petS (.obj [("name", .str "x"), ("age", .num 3000)]) (.obj [("name", .str "x")]) = false ∧
    -- nothing may be changed or invented
    tolerated [] 9 petS (.obj [("name", .str "x")]) (.obj [("name", .str "y")]) = false ∧
    tolerated [] 9 petS (.obj [("name", .str "x")]) (.obj [("name", .str "x"), ("age", .num 1000)]) = false := by
  decide +kernel

end Gs.Props.C05
