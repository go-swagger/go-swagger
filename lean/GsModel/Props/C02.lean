import GsModel.Schema.Valid
/-
  C02 — Generated model validation agrees with the schema.

  `valid` is the JSON-schema (draft 4, Swagger 2.0 subset) semantics of the reference validator.  Generated code may apply
  the documented relaxation (docs/reference/models/schemas.md) at some places and not at others; `validG m` is validity
  under a reading `m` of it: `valid` applies it nowhere, `validSkip` everywhere it may apply, `validAny` / `validAll` take at
  every place whichever reading accepts / rejects.  The property allows the generated `Validate` any answer between
  `validAll` and `validAny`.
  * `validG_imp` — the one walk over the validator, behind the next two items: a reading is consulted only where an
    object member holds an explicit zero value ("", 0, false).
  * `validG_mono`, `sandwich` — the readings are ordered: validAll → valid → validAny and validAll → validSkip → validAny for
    EVERY schema, definitions, fuel and instance.
  * `readings_agree_without_zero` — all four coincide on every instance none of whose object members is an explicit zero
    value (`skip_agrees_without_zero`, `any_all_agree_without_zero` are instances; `countOk_eq`, `countOkM_eq`: so do the
    property counts).  So outside those instances the generated validator has exactly one admissible answer.
  * `noZeroProps_sound` — the executable test the driver uses for that condition is sound.
  * `zero_of_optional_may_be_skipped`, `zero_of_required_readonly_may_be_missing` — the gap is real (both directions).
  * `required_missing_invalid`, `required_null_is_missing`, `wrong_type_invalid`, `null_needs_nullable`, `deep_constraints`,
    `property_counts` — sanity of the reference semantics.
  The tie to the generated code is behavioural: compiled generated models are run on (schema, instance) pairs and must
  answer `validAll` wherever `validAll = validAny`; `valid` itself is calibrated against go-openapi/validate on the same pairs.
  What is NOT proved: a model of the generated Validate code (its pointer / omitempty plan) refining these semantics.
-/
namespace Gs.Props.C02
open Gs Gs.Schema

/-- no member of any object of the instance is an explicit zero value -/
inductive NoZero : J → Prop
  | null : NoZero .null
  | bool (b : Bool) : NoZero (.bool b)
  | num (m : Int) : NoZero (.num m)
  | str (s : String) : NoZero (.str s)
  | arr (l : List J) : (∀ x ∈ l, NoZero x) → NoZero (.arr l)
  | obj (kvs : List (String × J)) : (∀ kv ∈ kvs, isZero kv.2 = false) → (∀ kv ∈ kvs, NoZero kv.2) → NoZero (.obj kvs)

theorem noZeroProps_sound : ∀ (n : Nat) (j : J), noZeroProps n j = true → NoZero j := by
  intro n
  induction n with
  | zero => exact fun _ h => nomatch h
  | succ n ih =>
    intro j h
    cases j with
    | null => exact .null
    | bool b => exact .bool b
    | num m => exact .num m
    | str s => exact .str s
    | arr l => exact .arr l fun x hx => ih x (List.all_eq_true.1 h x hx)
    | obj kvs =>
      simp only [noZeroProps, List.all_eq_true, Bool.and_eq_true, Bool.not_eq_true'] at h
      exact .obj kvs (fun kv hkv => (h kv hkv).1) fun kv hkv => ih kv.2 (h kv hkv).2

theorem countOk_eq (s : Schema) (kvs : List (String × J)) (hz : ∀ kv ∈ kvs, isZero kv.2 = false) :
    countOk true s kvs = countOk false s kvs := by
  have h : countedMembers true s kvs = countedMembers false s kvs := by
    unfold countedMembers
    congr 1
    apply List.filter_congr
    intro kv hkv
    simp [hz kv hkv]
  simp only [countOk, h]

theorem countOkM_eq (m1 m2 : Mode) (s : Schema) (kvs : List (String × J)) (hz : ∀ kv ∈ kvs, isZero kv.2 = false) :
    countOkM m1 s kvs = countOkM m2 s kvs := by
  unfold countOkM
  rw [countOk_eq s kvs hz]
  cases m1 <;> cases m2 <;> simp only [Bool.or_self, Bool.and_self]

/-- JSON null stands for "unset": a required property given as null is missing, whatever x-nullable says -/
theorem required_null_is_missing (skip : Mode) (d : Defs) (n : Nat) :
    validG skip d (n+1) { ty := "object", props := [("p", { ty := "string", nullable := true })], required := ["p"] } (.obj [("p", .null)]) = false := rfl

/-! ### the readings are ordered, and differ only at explicit zero values -/

/-- order on readings: `all` is the most severe, `any` the most permissive -/
def Mode.le : Mode → Mode → Bool
  | .all, _ => true
  | _, .any => true
  | .ref, .ref => true
  | .relaxed, .relaxed => true
  | _, _ => false

/-- a more severe reading has the flag of `reqOk` whenever the other has it, and the flag of `propsOk` only if the other has it -/
theorem Mode.le_flags {m1 m2 : Mode} (h : Mode.le m1 m2 = true) :
    (m2.rq = true → m1.rq = true) ∧ (m1.pr = true → m2.pr = true) := by
  revert h; cases m1 <;> cases m2 <;> decide

theorem countOkM_mono {m1 m2 : Mode} (h : Mode.le m1 m2 = true) (s : Schema) (kvs : List (String × J)) :
    countOkM m1 s kvs = true → countOkM m2 s kvs = true := by
  unfold countOkM
  generalize countOk false s kvs = a, countOk true s kvs = b
  revert h a b; cases m1 <;> cases m2 <;> decide

theorem band_imp {a a' b b' : Bool} (ha : a = true → a' = true) (hb : b = true → b' = true) :
    (a && b) = true → (a' && b') = true := by
  simp only [Bool.and_eq_true]
  exact And.imp ha hb

theorem all_imp {α} (l : List α) (f g : α → Bool) (h : ∀ x ∈ l, f x = true → g x = true) : l.all f = true → l.all g = true := by
  simp only [List.all_eq_true]
  intro hf x hx
  exact h x hx (hf x hx)

/-- the flag of `reqOk` is looked at only at a member holding a zero value -/
theorem reqOk_imp (b1 b2 : Bool) (s : Schema) (kvs : List (String × J))
    (hz : ∀ k v, lookup kvs k = some v → isZero v = true → b2 = true → b1 = true) :
    reqOk b1 s kvs = true → reqOk b2 s kvs = true := by
  unfold reqOk
  apply all_imp
  intro r _
  cases hl : lookup kvs r with
  | none => exact id
  | some v =>
    simp only [Bool.and_eq_true]
    cases b2 with
    | false => exact fun h => ⟨h.1, rfl⟩                                            -- without the flag only "not null" is asked
    | true =>
      cases hv : isZero v with
      | true => rw [hz r v hl hv rfl]; exact id                                     -- a zero: `b1` is set as well
      | false => exact fun h => ⟨h.1, by cases lookup s.props r <;> rfl⟩            -- no zero: the flag's test passes, whatever the property

/-- the flag of `propsOk` is looked at only at a member holding a zero value -/
theorem propsOk_imp (b1 b2 : Bool) (r1 r2 : Schema → J → Bool) (s : Schema) (kvs : List (String × J))
    (hz : ∀ k v, lookup kvs k = some v → isZero v = true → b1 = true → b2 = true)
    (hr : ∀ kp ∈ s.props, ∀ v, lookup kvs kp.1 = some v → r1 kp.2 v = true → r2 kp.2 v = true) :
    propsOk b1 r1 s kvs = true → propsOk b2 r2 s kvs = true := by
  unfold propsOk
  apply all_imp
  intro kp hkp
  cases hl : lookup kvs kp.1 with
  | none => exact id
  | some v =>
    simp only [Bool.if_true_left, decide_eq_true_eq, Bool.or_eq_true, Bool.and_eq_true]
    -- a present member passes as an optional null, as an optional (`h2`) zero (`h3`) under the flag (`h1`), or by the recursive check
    rintro (h | ⟨⟨h1, h2⟩, h3⟩ | h)
    · exact .inl h
    · exact .inr (.inl ⟨⟨hz kp.1 v hl h3 h1, h2⟩, h3⟩)
    · exact .inr (.inr (hr kp hkp v hl h))

theorem addlOk_imp (r1 r2 : Schema → J → Bool) (s : Schema) (kvs : List (String × J))
    (hr : ∀ a, s.addl = some a → ∀ kv ∈ kvs, r1 a kv.2 = true → r2 a kv.2 = true) :
    addlOk r1 s kvs = true → addlOk r2 s kvs = true := by
  unfold addlOk
  cases ha : s.addl with
  | none => exact id
  | some a =>
    apply all_imp
    intro kv hkv h
    simp only [Bool.or_eq_true] at h ⊢
    exact h.imp_right (hr a ha kv hkv)

theorem NoZero.of_arr {l : List J} : NoZero (.arr l) → ∀ x ∈ l, NoZero x
  | .arr _ h => h

theorem NoZero.of_obj {kvs : List (String × J)} : NoZero (.obj kvs) → (∀ kv ∈ kvs, isZero kv.2 = false) ∧ ∀ kv ∈ kvs, NoZero kv.2
  | .obj _ h0 h => ⟨h0, h⟩

/-- The one walk over the validator.  A reading is consulted only where an object member holds an explicit zero value, so
    what `m1` accepts `m2` accepts as soon as `m1` is the more severe of the two or the instance has no such member. -/
theorem validG_imp (m1 m2 : Mode) (d : Defs) (n : Nat) (s : Schema) (j : J) (H : Mode.le m1 m2 = true ∨ NoZero j)
    (h : validG m1 d n s j = true) : validG m2 d n s j = true := by
  induction n generalizing s j with
  | zero => exact nomatch h
  | succ n ih =>
    unfold validG at h ⊢
    by_cases hr : s.ref ≠ ""
    · rw [if_pos hr] at h ⊢
      cases hl : lookup d s.ref with
      | none => rw [hl] at h; cases h
      | some t => rw [hl] at h; exact ih t j H h
    · rw [if_neg hr] at h ⊢
      have hall : s.allOf.all (fun a => validG m1 d n a j) = true → s.allOf.all (fun a => validG m2 d n a j) = true :=
        all_imp s.allOf _ _ fun a _ => ih a j H
      cases j with
      | null => exact h
      | arr l =>
        refine band_imp (band_imp id hall) ?_ h
        cases s.items with
        | none => exact id
        | some it => exact all_imp l _ _ fun x hx => ih it x (H.imp_right (·.of_arr x hx))
      | obj kvs =>
        have hsub : ∀ kv ∈ kvs, Mode.le m1 m2 = true ∨ NoZero kv.2 := fun kv hkv => H.imp_right (·.of_obj.2 kv hkv)
        have hle : ∀ k v, lookup kvs k = some v → isZero v = true → Mode.le m1 m2 = true := fun k v hl hv =>
          H.elim id fun hz => absurd hv (Bool.eq_false_iff.1 (hz.of_obj.1 (k, v) (lookup_mem kvs k v hl)))
        refine band_imp (band_imp (band_imp (band_imp (band_imp id hall) ?_) ?_) ?_) ?_ h
        · exact reqOk_imp m1.rq m2.rq s kvs fun k v hl hv => (Mode.le_flags (hle k v hl hv)).1
        · exact propsOk_imp m1.pr m2.pr _ _ s kvs (fun k v hl hv => (Mode.le_flags (hle k v hl hv)).2)
            fun kp _ v hl => ih kp.2 v (hsub (kp.1, v) (lookup_mem kvs kp.1 v hl))
        · exact addlOk_imp _ _ s kvs fun a _ kv hkv => ih a kv.2 (hsub kv hkv)
        · exact H.elim (countOkM_mono · s kvs) fun hz => countOkM_eq m1 m2 s kvs hz.of_obj.1 ▸ id
      | _ => exact band_imp id hall h

/-- the readings are ordered: whatever a more severe reading accepts, a more permissive one accepts — in particular
    validAll → valid → validAny and validAll → validSkip → validAny, for EVERY schema, definitions, fuel and instance -/
theorem validG_mono (m1 m2 : Mode) (hm : Mode.le m1 m2 = true) (d : Defs) : ∀ (n : Nat) (s : Schema) (j : J),
    validG m1 d n s j = true → validG m2 d n s j = true :=
  fun n s j => validG_imp m1 m2 d n s j (.inl hm)

theorem sandwich (d : Defs) (n : Nat) (s : Schema) (j : J) :
    (validAll d n s j = true → valid d n s j = true) ∧ (valid d n s j = true → validAny d n s j = true) ∧
    (validAll d n s j = true → validSkip d n s j = true) ∧ (validSkip d n s j = true → validAny d n s j = true) :=
  ⟨validG_mono .all .ref rfl d n s j, validG_mono .ref .any rfl d n s j, validG_mono .all .relaxed rfl d n s j, validG_mono .relaxed .any rfl d n s j⟩

/-- ALL readings of the relaxation coincide on instances without explicit zero values in object members -/
theorem readings_agree_without_zero (m1 m2 : Mode) (d : Defs) : ∀ (n : Nat) (s : Schema) (j : J), NoZero j →
    validG m1 d n s j = validG m2 d n s j :=
  fun n s j hz => Bool.eq_iff_iff.2 ⟨validG_imp m1 m2 d n s j (.inr hz), validG_imp m2 m1 d n s j (.inr hz)⟩

/-- the documented relaxation can only matter on instances that carry an explicit zero value in an object member -/
theorem skip_agrees_without_zero (d : Defs) (n : Nat) (s : Schema) (j : J) (hz : NoZero j) :
    validSkip d n s j = valid d n s j := readings_agree_without_zero .relaxed .ref d n s j hz

/-- … and then the most permissive and the most severe per-site combination agree with the reference too: the generated
    validator has exactly one admissible answer -/
theorem any_all_agree_without_zero (d : Defs) (n : Nat) (s : Schema) (j : J) (hz : NoZero j) :
    validAny d n s j = valid d n s j ∧ validAll d n s j = valid d n s j :=
  ⟨readings_agree_without_zero .any .ref d n s j hz, readings_agree_without_zero .all .ref d n s j hz⟩

/-! ### the gap is real, in both directions -/

def objS (req : List String) (ps : List (String × Schema)) : Schema := { ty := "object", props := ps, required := req }

/-- an optional string with minLength 1 holding "": invalid for the reference, possibly skipped by the generated code -/
theorem zero_of_optional_may_be_skipped :
    valid [] 5 (objS [] [("s", { ty := "string", minLen := some 1 })]) (.obj [("s", .str "")]) = false ∧
    validSkip [] 5 (objS [] [("s", { ty := "string", minLen := some 1 })]) (.obj [("s", .str "")]) = true := by decide

/-- a required read-only integer holding 0: valid for the reference, possibly reported missing by the generated code -/
theorem zero_of_required_readonly_may_be_missing :
    valid [] 5 (objS ["n"] [("n", { ty := "integer", readOnly := true })]) (.obj [("n", .num 0)]) = true ∧
    validSkip [] 5 (objS ["n"] [("n", { ty := "integer", readOnly := true })]) (.obj [("n", .num 0)]) = false := by decide

/-! ### sanity of the reference semantics -/

theorem required_missing_invalid (skip : Mode) (d : Defs) (n : Nat) (ps : List (String × Schema)) (r : String) (rs : List String)
    (kvs : List (String × J)) (h : lookup kvs r = none) :
    validG skip d (n+1) (objS (r :: rs) ps) (.obj kvs) = false := by
  simp [validG, objS, h, reqOk]

theorem wrong_type_invalid :
    valid [] 3 { ty := "integer" } (.str "1") = false ∧ valid [] 3 { ty := "integer" } (.num 1500) = false ∧
    valid [] 3 { ty := "integer" } (.num 2000) = true ∧ valid [] 3 { ty := "string" } (.num 1000) = false := by decide

theorem null_needs_nullable :
    valid [] 3 { ty := "string" } .null = false ∧ valid [] 3 { ty := "string", nullable := true } .null = true := by decide

/- an exclusive bound, multipleOf, minItems, uniqueness and $ref are enforced at depth -/
def deepItems : Schema := { ty := "array", minItems := some 1, unique := true, items := some { ref := "N" } }
def deepS : Schema := objS ["a"] [("a", deepItems)]
def deepD : Defs := [("N", { ty := "integer", minimum := some 1000, exMin := true, multipleOf := some 2000 })]

theorem deep_constraints :
    valid deepD 9 deepS (.obj [("a", .arr [.num 2000, .num 4000])]) = true ∧
    valid deepD 9 deepS (.obj [("a", .arr [.num 2000, .num 2000])]) = false ∧
    valid deepD 9 deepS (.obj [("a", .arr [.num 1000])]) = false ∧
    valid deepD 9 deepS (.obj [("a", .arr [.num 3000])]) = false ∧
    valid deepD 9 deepS (.obj [("a", .arr [])]) = false := by decide +kernel

/- property counts: enforced; an explicit zero of an optional member is counted by the reference and not by the relaxed
    reading (the generated validator counts the members of the re-marshalled struct) -/
def cntProps : List (String × Schema) := [("a", { ty := "string" }), ("flag", { ty := "boolean" }), ("n", { ty := "integer" })]
def cntS : Schema := { ty := "object", minProps := some 1, maxProps := some 2, props := cntProps }

theorem property_counts :
    valid [] 5 cntS (.obj []) = false ∧ valid [] 5 cntS (.obj [("a", .str "x")]) = true ∧
    valid [] 5 cntS (.obj [("a", .str "x"), ("flag", .bool true), ("n", .num 1000)]) = false ∧
    valid [] 5 cntS (.obj [("flag", .bool false)]) = true ∧ validSkip [] 5 cntS (.obj [("flag", .bool false)]) = false := by decide +kernel

end Gs.Props.C02
