import GsModel.Scan.Indent
import GsModel.Scan.ListsProofs
/-
  C17 — generate spec yields a valid, faithful document or an error; arbitrary comment text never crashes the scanner.
  (proof for three parser stages, PARTIAL)

  * `removeIndent_total` — the indentation stripper of swagger:operation bodies returns for EVERY list of lines (no
    panic), and `removeIndent_keeps_lines` — it never drops or adds a line.
  * `unguarded_crashes` — the same function without the guards (as in upstream go-swagger) panics on an empty body and
    on a body whose first line is blank: the guards are what removes the crash.
  * `blank_first_line_is_identity` — what the guard does: a blank first line leaves the body untouched;
    `removeIndent_example` — what the function is for, on one body.
  * `Schemes:` and the tag list of a `swagger:route` / `swagger:operation` line (model `Scan/Lists.lean`, the item
    splitters that follow the regexp capture): `schemes_faithful` — whatever blanks are written around the commas and
    wherever empty items stand, the scanned schemes are exactly the non-empty tokens written, in order;
    `schemes_items_clean` — for EVERY captured string no scanned scheme is empty or carries a comma;
    `schemes_split_loses_nothing`; `old_schemes_rule_merges` — upstream go-swagger's rule (`Split(", ")`) turns
    `http,https` into ONE scheme; `schemes_canonical_rt` — schemes written `a,b,c` are scanned back as written.
    `tags_faithful` — tokens separated by any non-empty runs of blanks (blanks before the
    first and after the last allowed) are exactly the scanned tags; `tags_items_clean` — for EVERY captured string no tag
    is empty or carries a blank (no `["pets",""]`);
    `tags_lose_only_blanks` — the tags put end to end are the captured string without its blanks.
  Everything else this property quantifies over (the ~40 regular expressions, sectionedParser, the YAML operation bodies,
  the extension-block parser, assembly and validity of the document) is NOT modelled: the check explores it on annotated
  programs generated from the documented grammar, with hostile comment lines inserted everywhere.
-/
namespace Gs.Props.C17
open Gs Gs.Scan

theorem fixLine_ok (e : Nat) (l : Line) : ∃ r, fixLine e l = .ok r := by
  unfold fixLine
  split
  · simp only
    cases notIndentEnd (List.drop (e - 1) l) <;> exact ⟨_, rfl⟩
  · exact ⟨_, rfl⟩

theorem mapO_ok {α β} (f : α → Outcome β) (h : ∀ x, ∃ y, f x = .ok y) (l : List α) :
    ∃ r, mapO f l = .ok r ∧ r.length = l.length := by
  induction l with
  | nil => exact ⟨[], rfl, rfl⟩
  | cons x xs ih =>
    obtain ⟨y, hy⟩ := h x
    obtain ⟨ys, hys, hl⟩ := ih
    exact ⟨y :: ys, by simp [mapO, hy, hys], by simp [hl]⟩

theorem removeIndent_total (spec : List Line) : ∃ r, removeIndent spec = .ok r ∧ r.length = spec.length := by
  unfold removeIndent
  cases spec with
  | nil => exact ⟨[], rfl, rfl⟩
  | cons first rest =>
    simp only
    cases indentEnd first with
    | none => exact ⟨_, rfl, rfl⟩
    | some e =>
      cases e with
      | zero => exact ⟨_, rfl, rfl⟩
      | succ k => exact mapO_ok (fixLine (k+1)) (fixLine_ok (k+1)) (first :: rest)

theorem removeIndent_keeps_lines (spec r : List Line) (h : removeIndent spec = .ok r) : r.length = spec.length := by
  obtain ⟨r', hr, hl⟩ := removeIndent_total spec
  rw [hr] at h
  cases h
  exact hl

/-- every character of a blank line is a blank -/
def blank (l : Line) : Bool := l.all isSp

theorem indentEnd_blank (l : Line) (h : blank l = true) : indentEnd l = none := by
  simp [indentEnd, dropWhile_all isSp l (List.all_eq_true.mp h)]

theorem blank_first_line_is_identity (first : Line) (rest : List Line) (h : blank first = true) :
    removeIndent (first :: rest) = .ok (first :: rest) := by
  simp [removeIndent, indentEnd_blank first h]

theorem unguarded_crashes (first : Line) (rest : List Line) (h : blank first = true) :
    (∃ w, removeIndentUnguarded [] = .panic w) ∧ (∃ w, removeIndentUnguarded (first :: rest) = .panic w) := by
  refine ⟨⟨_, rfl⟩, ?_⟩
  simp [removeIndentUnguarded, indentEnd_blank first h]

/-- what the function is for (evaluated example): the indent of the first line is taken off every line -/
theorem removeIndent_example :
    (match removeIndent ["//   a: 1".toList, "//     b: 2".toList] with
     | .ok r => r == ["a: 1".toList, "  b: 2".toList]
     | _ => false) = true := by decide +kernel

/-! ### `Schemes:` and route tags — the item splitters behind the regexp captures -/

/-- how a scheme list is written: items separated by commas, each a (possibly empty) blank-free, comma-free token with
    arbitrary blanks on both sides -/
def renderSchemes (items : List (Str × Str × Str)) : Str :=
  [','].intercalate (items.map (fun i => i.1 ++ i.2.1 ++ i.2.2))

theorem schemes_faithful (sp : Char → Bool) (hcomma : sp ',' = false) (items : List (Str × Str × Str))
    (hpadL : ∀ i ∈ items, ∀ c ∈ i.1, sp c = true) (hpadR : ∀ i ∈ items, ∀ c ∈ i.2.2, sp c = true)
    (htok : ∀ i ∈ items, ∀ c ∈ i.2.1, sp c = false ∧ c ≠ ',') :
    schemesOf sp (renderSchemes items) = (items.map (fun i => i.2.1)).filter (fun t => !t.isEmpty) := by
  unfold schemesOf renderSchemes
  by_cases hne : items = []
  · subst hne; simp [List.intercalate, splitOn, trim]
  · have hb : ∀ c, sp c = true → c ≠ ',' := fun c h e => by simp [e, hcomma] at h
    have hfree : ∀ t ∈ items.map (fun i => i.1 ++ i.2.1 ++ i.2.2), ∀ c ∈ t, c ≠ ',' := by
      refine List.forall_mem_map.mpr fun i hi c hc => ?_
      simp only [List.mem_append] at hc
      rcases hc with (hc | hc) | hc
      · exact hb c (hpadL i hi c hc)
      · exact (htok i hi c hc).2
      · exact hb c (hpadR i hi c hc)
    rw [splitOn_intercalate ',' _ (by simpa using hne) hfree, List.map_map]
    congr 1
    apply List.map_congr_left
    intro i hi
    exact trim_padded sp i.1 i.2.1 i.2.2 (hpadL i hi) (hpadR i hi) (fun c hc => (htok i hi c hc).1)

/-- `schemesOf` evaluated on `http ,, HTTPS , ws` (a no-break space after `ws`) -/
example : schemesOf goIsSpace "http ,, HTTPS , ws ".toList = ["http".toList, "HTTPS".toList, "ws".toList] := by
  decide +kernel

theorem trim_sub (sp : Char → Bool) (s : Str) : ∀ c ∈ trim sp s, c ∈ s := by
  intro c hc
  unfold trim at hc
  have h1 := (List.dropWhile_sublist sp (l := (s.dropWhile sp).reverse)).mem (by simpa using hc)
  exact (List.dropWhile_sublist sp (l := s)).mem (by simpa using h1)

/-- for EVERY captured string: no scanned scheme is empty, none carries a comma -/
theorem schemes_items_clean (sp : Char → Bool) (s : Str) : ∀ t ∈ schemesOf sp s, t ≠ [] ∧ ∀ c ∈ t, c ≠ ',' := by
  intro t ht
  unfold schemesOf at ht
  simp only [List.mem_filter, List.mem_map] at ht
  obtain ⟨⟨piece, hp, rfl⟩, hne⟩ := ht
  refine ⟨by intro h; simp [h] at hne, ?_⟩
  intro c hc
  have := splitOn_items_free (· = ',') s piece hp c (trim_sub sp piece c hc)
  simpa using this

/-- the split itself loses nothing: the pieces joined by commas are the captured string -/
theorem schemes_split_loses_nothing (s : Str) : [','].intercalate (splitOn (· = ',') s) = s := splitOn_join ',' s

/-- splitting at `", "` (upstream go-swagger): without a blank after the comma the two schemes become one item -/
theorem old_schemes_rule_merges :
    schemesOld goIsSpace "http,https".toList = ["http,https".toList] ∧
    schemesOf goIsSpace "http,https".toList = ["http".toList, "https".toList] := by
  decide +kernel

/-- canonical writing round-trips: non-empty, blank-free, comma-free schemes written `a,b,c` are scanned back as written -/
theorem schemes_canonical_rt (sp : Char → Bool) (hcomma : sp ',' = false) (ts : List Str)
    (h : ∀ t ∈ ts, t ≠ [] ∧ ∀ c ∈ t, sp c = false ∧ c ≠ ',') :
    schemesOf sp (renderSchemes (ts.map (fun t => ([], t, [])))) = ts := by
  refine (schemes_faithful sp hcomma _ ?padL ?padR ?tok).trans ?_
  case padL => exact List.forall_mem_map.mpr fun _ _ => nofun       -- nothing is written before an item
  case padR => exact List.forall_mem_map.mpr fun _ _ => nofun       -- … or after it
  case tok => exact List.forall_mem_map.mpr fun t ht => (h t ht).2
  -- no item is dropped as empty
  rw [List.map_map, List.filter_eq_self.mpr (List.forall_mem_map.mpr fun t ht => by simpa using (h t ht).1)]
  exact List.map_id'' (fun _ => rfl) ts

/-- how a tag list is written: blanks, then tokens each followed by blanks; only the last token may have none after it -/
def WellSpaced (sp : Char → Bool) : List (Str × Str) → Prop
  | [] => True
  | (t, pad) :: rest =>
    t ≠ [] ∧ (∀ c ∈ t, sp c = false) ∧ (∀ c ∈ pad, sp c = true) ∧ (pad = [] → rest = []) ∧ WellSpaced sp rest

def renderTags (pad0 : Str) (items : List (Str × Str)) : Str :=
  pad0 ++ (items.map (fun i => i.1 ++ i.2)).flatten

theorem tags_faithful (sp : Char → Bool) (pad0 : Str) (items : List (Str × Str)) (h0 : ∀ c ∈ pad0, sp c = true)
    (h : WellSpaced sp items) : fields sp (renderTags pad0 items) = items.map (·.1) := by
  unfold renderTags
  rw [fields_pad sp pad0 _ h0]
  induction items with
  | nil => simp [fields_nil]
  | cons i rest ih =>
    obtain ⟨t, pad⟩ := i
    obtain ⟨hne, hfree, hpad, hlast, hrest⟩ := h
    simp only [List.map_cons, List.flatten_cons]
    cases pad with
    | nil =>
      have := hlast rfl
      subst this
      simpa using fields_free sp t hne hfree
    | cons c r =>
      have hc : sp c = true := hpad c (by simp)
      rw [List.append_assoc, List.cons_append, fields_tok sp t c _ hne hfree hc, ← List.cons_append,
        fields_pad sp (c :: r) _ hpad, ih hrest]

example : WellSpaced goIsSpace [("pets".toList, "  ".toList), ("users".toList, [])] ∧
    fields goIsSpace " pets  users".toList = ["pets".toList, "users".toList] := by
  simp only [WellSpaced]
  decide +kernel

/-- for EVERY captured string: no tag is empty, none carries a blank -/
theorem tags_items_clean (sp : Char → Bool) (s : Str) : ∀ t ∈ fields sp s, t ≠ [] ∧ ∀ c ∈ t, sp c = false := by
  intro t ht
  unfold fields at ht
  simp only [List.mem_filter] at ht
  exact ⟨by intro h; simp [h] at ht, splitOn_items_free sp s t ht.1⟩

/-- the tags are all of the non-blank text: no character other than a blank is lost -/
theorem tags_lose_only_blanks (sp : Char → Bool) (s : Str) : (fields sp s).flatten = s.filter (fun c => !sp c) := by
  unfold fields
  rw [List.flatten_filter_not_isEmpty, flatten_splitOn]

end Gs.Props.C17
