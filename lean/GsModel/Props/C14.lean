import GsModel.Diff.CmpLemmas
import GsModel.Diff.SelfLemmas
import GsModel.Diff.Edits
/-
  C14 — diff reports the direction of every change correctly: swapping the arguments mirrors the report.

  Proved per comparator (the places where a direction label is chosen), about the model tied to the code by the
  both-orders correspondence of `vx check C14`:
  `mirror_norm_involutive`, `diffsTo_mirror`, `diffsTo_nil_mirror`, `compareIntValues_mirror` (all bounds / lengths / item
  counts), `checkToFromRequired_mirror`, `typeHierarchy_mirror`, `compareEnums_mirror`, `compareDescripton_mirror_one_empty`,
  `checkNumeric_mirror`, `checkString_mirror` (enums on both sides or on neither).
  Counterexample theorems (the statement is FALSE of the code there; each is a known finding replayed on the real
  analyser): `desc_changed_is_deleted_both_ways`, `enum_introduced_is_silent`.
  At the level of the whole report (every fuel, every iteration order, whatever else the documents contain):
  `endpoint_direction_report` — an endpoint only the second document has is reported AddedEndpoint, and DeletedEndpoint with
  the documents exchanged; `param_direction_report` — the same for a parameter of a shared endpoint
  (Added / Deleted, Required / Optional); `response_direction_report` — and for a response code (AddedResponse /
  DeletedResponse).  The general whole-report mirror law is decided on the real analyser by the both-orders sweep, not by a
  theorem: labelled partial.
-/
namespace Gs.Props.C14
open Gs Gs.Gen Gs.Diff

theorem mirror_norm_involutive : ∀ c : Code, normC (mirror (normC (mirror c))) = normC c :=
  Code.forall_of_all (by decide +kernel)

theorem mirror_direction_classes :
    mirror .WidenedType = .NarrowedType ∧ mirror .NarrowedType = .WidenedType ∧
    mirror .AddedConstraint = .DeletedConstraint ∧ mirror .DeletedConstraint = .AddedConstraint ∧
    mirror .ChangedType = .ChangedType ∧ mirror .ChangedToCompatibleType = .ChangedToCompatibleType ∧
    mirror .RefTargetChanged = .RefTargetChanged ∧ mirror .ChangedCollectionFormat = .ChangedCollectionFormat := by
  decide

/-- added / deleted set computation: swapping the lists swaps the two results -/
theorem diffsTo_mirror (a b : List String) :
    (diffsTo (some a) b).1 = (diffsTo (some b) a).2 ∧ (diffsTo (some a) b).2 = (diffsTo (some b) a).1 :=
  ⟨rfl, rfl⟩

/-- the nil-slice special case (`from == nil` returns `to` as is): for duplicate-free lists (Swagger requires
    `uniqueItems` for consumes / produces / schemes / tags) the values reported as added from an absent list are the
    values reported as deleted when the list disappears -/
theorem diffsTo_nil_mirror (b : List String) (hb : b.Nodup) :
    (diffsTo none b).1.Perm (diffsTo (some b) []).2 ∧ (diffsTo none b).2 = [] ∧ (diffsTo (some b) []).1 = [] := by
  refine ⟨?_, rfl, rfl⟩
  have : b.filter (fun x => !([] : List String).contains x) = b := List.filter_eq_self.mpr fun _ _ => rfl
  simp only [diffsTo, this, dedup_nodup b hb]
  exact (sortStrs_perm b).symm

/-- numeric bounds, lengths and item counts: greater/less and added/deleted labels are mirrored -/
theorem compareIntValues_mirror (v1 v2 : Option Int) (g l : Code) (h1 : mirror g = l) (h2 : mirror l = g) :
    (compareIntValues v2 v1 g l).map (fun d => mirror d.change) = (compareIntValues v1 v2 g l).map (·.change) := by
  match v1, v2 with
  | none, none | some _, none | none, some _ => rfl
  | some a, some b =>
    rcases Int.lt_trichotomy a b with h | h | h
    · rw [compareIntValues_lt h, compareIntValues_gt h]; exact congrArg (· :: []) h2
    · rw [h, compareIntValues_self]; rfl
    · rw [compareIntValues_gt h, compareIntValues_lt h]; exact congrArg (· :: []) h1

/-- the hypotheses of `compareIntValues_mirror` for the pair of labels the analyser uses for an upper bound -/
example : mirror Code.WidenedType = Code.NarrowedType ∧ mirror Code.NarrowedType = Code.WidenedType := by decide

theorem checkToFromRequired_mirror (r1 r2 : Bool) :
    (checkToFromRequired r2 r1).map (fun d => mirror d.change) = (checkToFromRequired r1 r2).map (·.change) := by
  cases r1 <;> cases r2 <;> decide

theorem typeHierarchy_mirror (t1 t2 : String) :
    (getTypeHierarchyChange t2 t1).change = mirror (getTypeHierarchyChange t1 t2).change := by
  unfold getTypeHierarchyChange
  generalize isStringType t1 = s1, isStringType t2 = s2, wideness t1 = w1, wideness t2 = w2
  by_cases hs : s1 = s2
  · -- both strings or neither: the string tests fail in both directions and the widenesses decide
    subst hs
    simp only [Bool.and_not_self, Bool.not_and_self, Bool.false_eq_true, if_false]
    match w1, w2 with
    | none, none | none, some _ | some _, none => rfl
    | some a, some b =>
      by_cases he : a = b
      · subst he; simp only [if_true]; rfl
      · rcases Nat.lt_or_gt_of_ne he with h | h <;>
          simp only [if_neg (Nat.ne_of_lt h), if_neg (Nat.ne_of_gt h), if_neg (Nat.not_lt_of_gt h), if_pos h, gt_iff_lt] <;> rfl
  · cases s1 <;> cases s2
    case false.false | true.true => exact absurd rfl hs
    all_goals rfl

/-- enum values: swapping the lists swaps the two entries -/
theorem compareEnums_mirror (l r : List JVal) :
    ((compareEnums r l).map (fun d => mirror d.change)).Perm ((compareEnums l r).map (·.change)) := by
  simp only [compareEnums, List.map_append, apply_ite (List.map _), List.map_nil, List.map_cons]
  -- the two optional entries exchange their places; labels and value lists agree by computation (`diffsTo_mirror` is `rfl`)
  exact List.perm_append_comm

/-! ### the constraint groups of CompareProps (codes only; `Perm` because the enum entries swap places) -/

def changes (l : List TDiff) : List Code := l.map (·.change)
def mchanges (l : List TDiff) : List Code := l.map (fun d => mirror d.change)

theorem mchanges_eq (l : List TDiff) : mchanges l = (l.map (·.change)).map mirror := by
  rw [List.map_map]; rfl

theorem perm_ite {α} (c : Prop) [Decidable c] {a a' b b' : List α} (ha : a.Perm a') (hb : b.Perm b') :
    (if c then a else b).Perm (if c then a' else b') := by
  by_cases h : c
  · rwa [if_pos h, if_pos h]
  · rwa [if_neg h, if_neg h]

theorem cmpInt_m (v1 v2 : Option Int) (g l : Code) (h1 : mirror g = l) (h2 : mirror l = g) :
    mchanges (compareIntValues v2 v1 g l) = changes (compareIntValues v1 v2 g l) :=
  compareIntValues_mirror v1 v2 g l h1 h2

theorem checkNumeric_mirror (t1 t2 : Schema) :
    (mchanges (checkNumericTypeChanges [] t2 t1)).Perm (changes (checkNumericTypeChanges [] t1 t2)) := by
  -- both sides in normal form, `mirror` pushed into the parts, the tests of the left side turned round to read as on the right
  simp only [mchanges_eq, changes, checkNumeric_codes, and_comm (a := isNumeric t2.type = true), eq_comm (a := t2.v.exclMax),
    eq_comm (a := t2.v.exclMin), apply_ite (List.map mirror), List.map_nil, List.map_append, List.map_map, exclCodes_mirror]
  refine perm_ite _ (.append_left _ ?_) (.refl _)                                    -- the flags: `exclCodes_mirror`
  refine perm_ite _ ?_ (.refl _)                                                     -- the bounds
  exact (List.Perm.of_eq (cmpInt_m _ _ _ _ rfl rfl)).append (.of_eq (cmpInt_m _ _ _ _ rfl rfl))

/-- string group, outside the excluded point (an enum present on exactly one side: see `enum_introduced_is_silent`) -/
theorem checkString_mirror (t1 t2 : Schema) (hs : t1.v.enum.length > 0 ↔ t2.v.enum.length > 0) :
    (mchanges (checkStringTypeChanges [] t2 t1)).Perm (changes (checkStringTypeChanges [] t1 t2)) := by
  -- as for the numeric group; `← hs` turns the guard of the enum part, which reads the first schema's enum, round as well
  simp only [mchanges_eq, changes, checkString_codes, and_comm (a := t2.type.head? = some "string"), ne_comm (a := t2.v.pattern),
    ← hs, apply_ite (List.map mirror), List.map_nil, List.map_cons, List.map_append, List.map_map]
  refine perm_ite _ ?_ (.refl _)
  -- the two lengths, the pattern (its code is its own mirror), the enums
  exact (((List.Perm.of_eq (cmpInt_m _ _ _ _ rfl rfl)).append (.of_eq (cmpInt_m _ _ _ _ rfl rfl))).append (.refl _)).append
    (perm_ite _ (compareEnums_mirror _ _) (.refl _))

/- descriptions: correct when one side is empty … -/
def entryAt (loc : Loc) (c : Code) : Diff :=
  { loc := loc, code := c, compat := getCompatibilityForChange c (loc.response > 0) }

theorem compareDescripton_mirror_one_empty (st : St) (loc : Loc) (d : String) (hd : d ≠ "") :
    (st.compareDescripton loc "" d).diffs = st.diffs ++ [entryAt loc .AddedDescripton] ∧
    (st.compareDescripton loc d "").diffs = st.diffs ++ [entryAt loc .DeletedDescripton] := by
  have hlen : d.length > 0 := Nat.pos_of_ne_zero (mt String.length_eq_zero_iff.mp hd)
  have hne : ¬ ("" = d) := fun e => hd e.symm
  constructor
  · simp [St.compareDescripton, St.addDiff, hne, hlen, entryAt]
  · simp [St.compareDescripton, St.addDiff, hd, hlen, entryAt]

/-- the statement is FALSE of the code when a non-empty description changes: whatever it changes to, the entry says "Deleted" -/
theorem compareDescripton_changed (st : St) (loc : Loc) (d1 d2 : String) (hne : d1 ≠ d2) (h1 : d1 ≠ "") :
    (st.compareDescripton loc d1 d2).diffs = st.diffs ++ [entryAt loc .DeletedDescripton] := by
  have hlen : d1.length > 0 := Nat.pos_of_ne_zero (mt String.length_eq_zero_iff.mp h1)
  simp [St.compareDescripton, St.addDiff, hne, hlen, entryAt]

/-- so both directions say "Deleted", which is not its own mirror
    (known finding: the pinned golden fixtures/diff/uber.diff.txt expects that label, so it cannot be repaired) -/
theorem desc_changed_is_deleted_both_ways :
    ∃ (d1 d2 : String), d1 ≠ d2 ∧
      (({} : St).compareDescripton {} d1 d2).diffs.map (·.code) = [Code.DeletedDescripton] ∧
      (({} : St).compareDescripton {} d2 d1).diffs.map (·.code) = [Code.DeletedDescripton] ∧
      mirror Code.DeletedDescripton ≠ Code.DeletedDescripton :=
  ⟨"x", "y", by decide, by rw [compareDescripton_changed _ _ _ _ (by decide) (by decide)]; rfl,
    by rw [compareDescripton_changed _ _ _ _ (by decide) (by decide)]; rfl, by decide⟩

def strSchema (e : List JVal) : Schema := { type := ["string"], v := { enum := e } }
def jv (s : String) : JVal := { kind := 3, canon := "\"" ++ s ++ "\"", shown := s }

/-- FALSE of the code: an enum that disappears is reported (DeletedEnumValue), an enum that is introduced is not
    (known finding: `len(type1.Enum) > 0` guards the comparison) -/
theorem enum_introduced_is_silent :
    compareProps 5 (strSchema [jv "a"]) (strSchema []) = .ok [{ change := Code.DeletedEnumValue, desc := "a" }] ∧
    compareProps 5 (strSchema []) (strSchema [jv "a"]) = .ok [] := by
  constructor <;> rfl

/-! ### direction at the level of the whole report -/

theorem endpoint_direction_report (fl : Flags) (n : Nat) (a b : Spec) (um : UM) (hb : um ∈ getURLMethodsFor b)
    (hnew : findUM (getURLMethodsFor a) um.url um.method = none)
    (hlive : um.item.optionsDeprecated = false ∧ um.op.deprecated = false) :
    Outcome.Holds (fun ds => ∃ d ∈ ds, d.code = Code.AddedEndpoint) (analyse fl n a b) ∧
    Outcome.Holds (fun ds => ∃ d ∈ ds, d.code = Code.DeletedEndpoint) (analyse fl n b a) :=
  ⟨analyse_has_added_endpoint fl n a b um hb hnew rfl, analyse_has_deleted_endpoint fl n b a um hb hnew hlive rfl⟩

theorem param_direction_report (fl : Flags) (n : Nat) (a b : Spec) (pl : String) (hpl : pl ∈ paramLocations)
    (uma umb : UM) (ha : uma ∈ getURLMethodsFor a) (hb : umb ∈ getURLMethodsFor b)
    (hfa : findUM (getURLMethodsFor a) umb.url umb.method = some uma) (hfb : findUM (getURLMethodsFor b) uma.url uma.method = some umb)
    (name : String) (p : Param)
    (hnot : lookup (getParams uma.item.params uma.op.params pl) name = none)
    (hin : (name, p) ∈ getParams umb.item.params umb.op.params pl) :
    Outcome.Holds (fun ds => ∃ d ∈ ds, d.code = addedCode p) (analyse fl n a b) ∧
    Outcome.Holds (fun ds => ∃ d ∈ ds, d.code = deletedCode p) (analyse fl n b a) :=
  ⟨analyse_has_added_param fl n a b pl hpl ⟨hb, hfa⟩ name p hnot hin (fun _ _ => rfl),
   analyse_has_deleted_param fl n b a pl hpl ⟨ha, hfb⟩ name p hin hnot (fun _ _ => rfl)⟩

theorem response_direction_report (fl : Flags) (n : Nat) (a b : Spec) (uma umb : UM) (ha : uma ∈ getURLMethodsFor a) (hb : umb ∈ getURLMethodsFor b)
    (hfa : findUM (getURLMethodsFor a) umb.url umb.method = some uma) (hfb : findUM (getURLMethodsFor b) uma.url uma.method = some umb)
    (resp : Response) (hin : resp ∈ umb.op.responses) (hnot : findResp uma.op.responses resp.code = none) :
    Outcome.Holds (fun ds => ∃ d ∈ ds, d.code = Code.AddedResponse) (analyse fl n a b) ∧
    Outcome.Holds (fun ds => ∃ d ∈ ds, d.code = Code.DeletedResponse) (analyse fl n b a) :=
  ⟨analyse_has_added_response fl n a b ⟨hb, hfa⟩ resp hin hnot (fun _ _ => rfl),
   analyse_has_deleted_response fl n b a ⟨ha, hfb⟩ resp hin hnot (fun _ _ => rfl)⟩

/- non-vacuity: an endpoint and a parameter that only one document has -/
def opPlain : Operation := { method := "get", responses := [{ code := 200, desc := "ok" }] }
def prm : Param := { name := "q", loc := "query", chain := [{ type := "string" }] }
def opPrm : Operation := { method := "get", params := [prm], responses := [{ code := 200, desc := "ok" }] }
def specEmpty : Spec := { paths := [] }
def specPlain : Spec := { paths := [{ url := "/a", ops := [opPlain] }] }
def specPrm : Spec := { paths := [{ url := "/a", ops := [opPrm] }] }
def umPlain : UM := { url := "/a", method := "get", item := { url := "/a", ops := [opPlain] }, op := opPlain }
def umPrm : UM := { url := "/a", method := "get", item := { url := "/a", ops := [opPrm] }, op := opPrm }

example := endpoint_direction_report {} 5 specEmpty specPlain umPlain (List.mem_singleton_self _) rfl ⟨rfl, rfl⟩
example := param_direction_report {} 5 specPlain specPrm "query" (by decide) umPlain umPrm
  (List.mem_singleton_self _) (List.mem_singleton_self _) rfl rfl "q" prm rfl
  (List.mem_singleton_self _)
example : (analyse {} 5 specPlain specPrm).isOk = true ∧ (analyse {} 5 specPrm specPlain).isOk = true := by decide +kernel

end Gs.Props.C14
