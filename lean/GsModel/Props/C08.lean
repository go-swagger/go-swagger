import GsModel.Ops.Gather
/-
  C08 — No operation or definition is silently dropped or merged.

  About the model of gatherOperations (tied to the real function through a verif-tagged accessor, on generated
  candidate lists rich in collisions):
  * `no_drop`        — when the registration names (operationId, else the method+path key) are pairwise distinct, every
                       operation is registered under its own name: nothing is dropped or merged, for EVERY list.
  * `gather_le`      — the registration loop adds at most one entry per operation.
  * `merge_is_silent` — the property is FALSE of the code when names collide: two operations without operationId whose
                       keys collide (GET /a-b and GET /a_b) end up as ONE entry (`gather` has no error outcome, as
                       gatherOperations raises none).
-/
namespace Gs.Props.C08
open Gs Gs.Gather

theorem lookup_setOp (m : List (String × Op)) (k : String) (v : Op) (q : String) :
    lookup (setOp m k v) q = if k = q then some v else lookup m q := by
  induction m with
  | nil => rfl
  | cons kv tl ih =>
    unfold setOp
    by_cases hk : kv.1 = k <;> by_cases hq : k = q <;> simp_all [lookup]

theorem length_setOp (m : List (String × Op)) (k : String) (v : Op) :
    (setOp m k v).length = if (lookup m k).isSome then m.length else m.length + 1 := by
  induction m with
  | nil => rfl
  | cons kv tl ih =>
    unfold setOp
    by_cases h : kv.1 = k
    · simp [h, lookup]
    · simp only [h, if_false, List.length_cons, lookup, ih]
      split <;> rfl

/-- a name not yet taken is registered at the end -/
theorem setOp_new (m : List (String × Op)) (k : String) (v : Op) (h : lookup m k = none) : setOp m k v = m ++ [(k, v)] := by
  induction m with
  | nil => rfl
  | cons kv tl ih =>
    by_cases hk : kv.1 = k
    · simp [lookup, hk] at h
    · simp only [lookup, if_neg hk] at h
      simp only [setOp, if_neg hk, List.cons_append, ih h]

theorem stepOp_new (m : List (String × Op)) (o : Op) (h : lookup m (name o) = none) : stepOp m o = m ++ [(name o, o)] := by
  unfold stepOp
  simp only [h]
  exact setOp_new m _ o h

/-- pairwise distinct registration names -/
def distinctNames : List Op → Prop
  | [] => True
  | o :: tl => (∀ p ∈ tl, name p ≠ name o) ∧ distinctNames tl

/-- what `gather` yields when no two names collide: every operation under its own name, in order -/
def entries (ops : List Op) : List (String × Op) := ops.map fun o => (name o, o)

theorem lookup_entries_cons (p : Op) (tl : List Op) (k : String) :
    lookup (entries (p :: tl)) k = if name p = k then some p else lookup (entries tl) k := rfl

theorem lookup_entries_new (seen : List Op) (k : String) (h : ∀ p ∈ seen, name p ≠ k) : lookup (entries seen) k = none := by
  induction seen with
  | nil => rfl
  | cons p tl ih =>
    rw [lookup_entries_cons, if_neg (h p List.mem_cons_self)]
    exact ih fun p' hp' => h p' (List.mem_cons_of_mem _ hp')

theorem lookup_entries (ops : List Op) (hd : distinctNames ops) (o : Op) (ho : o ∈ ops) :
    lookup (entries ops) (name o) = some o := by
  induction ops with
  | nil => cases ho
  | cons p tl ih =>
    rw [lookup_entries_cons]
    rcases List.mem_cons.mp ho with e | ho
    · rw [e, if_pos rfl]
    · rw [if_neg (Ne.symm (hd.1 o ho))]
      exact ih hd.2 ho

/-- the registration loop from the middle: `seen` is registered already, `rest` is still to come -/
theorem foldl_stepOp_distinct (rest : List Op) : ∀ (seen : List Op), (∀ o ∈ rest, ∀ p ∈ seen, name p ≠ name o) →
    distinctNames rest → rest.foldl stepOp (entries seen) = entries (seen ++ rest) := by
  induction rest with
  | nil => intro seen _ _; rw [List.append_nil]; rfl
  | cons o tl ih =>
    intro seen hcross hd
    have e : entries (seen ++ [o]) = entries seen ++ [(name o, o)] := List.map_append
    rw [List.foldl_cons, stepOp_new _ o (lookup_entries_new seen _ (hcross o List.mem_cons_self)), ← e,
      List.append_cons seen o tl]
    refine ih (seen ++ [o]) (fun q hq p hp => ?_) hd.2
    rcases List.mem_append.mp hp with hp | hp
    · exact hcross q (List.mem_cons_of_mem _ hq) p hp
    · cases List.mem_singleton.mp hp; exact (hd.1 q hq).symm

theorem gather_distinct (ops : List Op) (hd : distinctNames ops) : gather ops = entries ops :=
  foldl_stepOp_distinct ops [] (fun _ _ _ hp => nomatch hp) hd

/-- with pairwise distinct names nothing is dropped or merged: as many entries as operations, each operation
    registered under its own name -/
theorem no_drop (ops : List Op) (hd : distinctNames ops) :
    (gather ops).length = ops.length ∧ ∀ o ∈ ops, lookup (gather ops) (name o) = some o := by
  rw [gather_distinct ops hd]
  exact ⟨List.length_map _, lookup_entries ops hd⟩

theorem setOp_length_le (m : List (String × Op)) (k : String) (v : Op) : (setOp m k v).length ≤ m.length + 1 := by
  rw [length_setOp]
  split
  · exact Nat.le_succ _
  · exact Nat.le_refl _

theorem stepOp_length_le (m : List (String × Op)) (o : Op) : (stepOp m o).length ≤ m.length + 1 := by
  unfold stepOp
  exact setOp_length_le _ _ _

theorem gather_le : ∀ (ops : List Op) (m : List (String × Op)), (ops.foldl stepOp m).length ≤ m.length + ops.length := by
  intro ops
  induction ops with
  | nil => exact fun m => Nat.le_refl _
  | cons o tl ih =>
    intro m
    calc (tl.foldl stepOp (stepOp m o)).length
        ≤ (stepOp m o).length + tl.length := ih _
      _ ≤ m.length + 1 + tl.length := Nat.add_le_add_right (stepOp_length_le m o) _
      _ = m.length + (tl.length + 1) := by rw [Nat.add_assoc, Nat.add_comm 1]

/- the statement is false of the code: two valid operations whose keys collide are merged without any error -/
def opAB : Op := { key := "GetAb", method := "GET", path := "/a-b", id := "" }
def opA_B : Op := { key := "GetAb", method := "GET", path := "/a_b", id := "" }

theorem merge_is_silent : (gather [opAB, opA_B]).length = 1 ∧ opAB ≠ opA_B := by decide

/-- non-vacuity of `no_drop`: a list with distinct names, one of them taken from an operationId -/
example : distinctNames [opAB, { key := "PostAb", method := "POST", path := "/a-b", id := "create" }] := by
  simp [distinctNames, name, opAB]

end Gs.Props.C08
