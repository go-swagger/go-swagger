import GsModel.Doc.Lines
import GsModel.Props.C03
import GsModel.Params.Decimal
import GsModel.Gen.ScanFacts
/-
  C18 — Spec → generated models → scanned spec preserves every schema.   (proof for the validation lines, PARTIAL)

  `Doc.emit` is what the model templates print for a constraint, `Doc.parse` what the scanner's taggers read.
  * `count_lines_rt` — Max/Min Length, Max/Min Items, Unique, Required, Read Only round-trip for EVERY value.
  * `integer_bound_rt` — Maximum / Minimum (inclusive or exclusive) with an integer value round-trip for EVERY value that is
    printed without an exponent (`Dec.plain`, which transcribes the rule of %v: for an integer, |v| < 10^6).
  * `sci_dropped` — for EVERY decimal value that is not `plain` (by that rule |v| ≥ 10^6 or 0 < |v| < 10^-4) the printed text
    carries an exponent, which the scanner's regexp does not admit: the constraint is LOST.
  * `fraction_examples` — fractional bounds in the plain range round-trip (evaluated examples: tests, not a theorem);
    `fmtV_examples` — what the generator prints at the boundaries of the plain range.
  * `multipleOf_rt_iff` — Multiple Of round-trips iff the scanner applies the value it matched; it does
    (`scanner_applies_multipleOf`, a regenerated fact), hence `multipleOf_preserved`.
  Tie: definitions with these constraints are generated as models and scanned back with codescan; every scanned constraint is
  compared with `parse (emit c)` (the model) and with c itself (the property).
  Not modelled: the regexp engine (the recognisers transcribe the number sub-expression and the keyword table by hand), type
  and format mapping through Go types, items-level lines (none are emitted), enum and pattern text.
-/
namespace Gs.Props.C18
open Gs Gs.Params Gs.Doc

theorem allDigits_digitsOf (n : Nat) : allDigits (digitsOf n) = true := by
  simp only [allDigits, Bool.and_eq_true, decide_eq_true_eq, List.all_eq_true]
  exact ⟨by rw [digitsOf, toString_toList]; exact Nat.toDigits_ne_nil, fun c hc => isDigit_of_mem_toString hc⟩

theorem count_lines_rt (b : Bool) (n : Nat) :
    parse b (emit (.maxLength n)) = some (.maxLength n) ∧ parse b (emit (.minLength n)) = some (.minLength n) ∧
    parse b (emit (.maxItems n)) = some (.maxItems n) ∧ parse b (emit (.minItems n)) = some (.minItems n) ∧
    parse b (emit .unique) = some .unique ∧ parse b (emit .required) = some .required ∧ parse b (emit .readOnly) = some .readOnly := by
  have h1 := allDigits_digitsOf n
  have h2 : digitsVal (digitsOf n) = some n := digitsVal_repr n
  simp [parse, emit, h1, h2]

/-! ### bounds: what the taggers make of a printed number -/

theorem parse_maximum (b : Bool) (d : Dec) (e : Bool) :
    parse b (emit (.maximum d e)) = (parseDec (fmtV d)).map (Line.maximum · e) := by
  simp only [parse, emit]
  cases e <;> rfl

theorem parse_minimum (b : Bool) (d : Dec) (e : Bool) :
    parse b (emit (.minimum d e)) = (parseDec (fmtV d)).map (Line.minimum · e) := by
  simp only [parse, emit]
  cases e <;> rfl

theorem parse_multipleOf (b : Bool) (d : Dec) :
    parse b (emit (.multipleOf d)) = if b then (parseDec (fmtV d)).map .multipleOf else none := by
  simp only [parse, emit]

theorem unsigned_digitsOf (neg : Bool) (n : Nat) : unsignedOk (digitsOf n) = true ∧
    parseUnsigned neg (digitsOf n) = some { neg := neg && n != 0, int := n, frac := [] } := by
  have hd := allDigits_digitsOf n
  have hs := C03.splitOn_no_sep '.' (digitsOf n) (fun c hc e => absurd (isDigit_of_mem_toString hc) (by rw [e]; decide))
  have hv : digitsVal (digitsOf n) = some n := digitsVal_repr n
  simp [unsignedOk, parseUnsigned, hs, hd, hv]

theorem parseDec_nosign (s : Str) (h : ∀ c r, s = c :: r → c ≠ '-' ∧ c ≠ '+') (hu : unsignedOk s = true) :
    parseDec s = parseUnsigned false s := by
  have hp : isPlainDecimal s = true := by
    unfold isPlainDecimal
    split
    · exact absurd rfl (h _ _ rfl).1
    · exact absurd rfl (h _ _ rfl).2
    · exact hu
  unfold parseDec
  rw [hp, Bool.not_true, if_neg Bool.false_ne_true]
  split
  · exact absurd rfl (h _ _ rfl).1
  · exact absurd rfl (h _ _ rfl).2
  · rfl

def intDec (neg : Bool) (n : Nat) : Dec := { neg := neg, int := n, frac := [] }

/-- an integer the generator prints without an exponent is read back as it is -/
theorem parseDec_fmtV_int (neg : Bool) (n : Nat) (hwf : (intDec neg n).wf = true) (hp : (intDec neg n).plain = true) :
    parseDec (fmtV (intDec neg n)) = some (intDec neg n) := by
  have ⟨hu, hpu⟩ := unsigned_digitsOf neg n
  have hf : fmtV (intDec neg n) = (if neg then ['-'] else []) ++ digitsOf n := by
    simp only [intDec] at hp ⊢
    simp [fmtV, hp, plainText, sign]
  rw [hf]
  cases neg with
  | false =>
    rw [if_neg Bool.false_ne_true, List.nil_append, parseDec_nosign (digitsOf n) (head_not_sign n) hu, hpu]
    rfl
  | true =>
    have hn : (n != 0) = true := by
      rw [bne_iff_ne]
      rintro rfl
      cases hwf   -- `-0` is not well-formed: this is all `hwf` says of an integer
    -- the text begins with `-`: the sign branch of the `match` in `isPlainDecimal` and in `parseDec` is taken by computation
    rw [if_pos rfl, List.singleton_append, parseDec, isPlainDecimal, hu, hpu, hn]
    rfl

/-- Maximum / Minimum with an integer bound round-trip for every value the generator prints without an exponent -/
theorem integer_bound_rt (b neg excl : Bool) (n : Nat) (hwf : (intDec neg n).wf = true) (hp : (intDec neg n).plain = true) :
    parse b (emit (.maximum (intDec neg n) excl)) = some (.maximum (intDec neg n) excl) ∧
    parse b (emit (.minimum (intDec neg n) excl)) = some (.minimum (intDec neg n) excl) := by
  rw [parse_maximum, parse_minimum, parseDec_fmtV_int neg n hwf hp]
  exact ⟨rfl, rfl⟩

theorem unsignedOk_chars (s : Str) (h : unsignedOk s = true) : ∀ c ∈ s, c.isDigit = true ∨ c = '.' := by
  intro c hc
  by_cases hdot : c = '.'
  · exact .inr hdot
  · obtain ⟨p, hp, hcp⟩ := C03.mem_splitOn '.' s c hc hdot
    have hall : ∀ p ∈ splitOn '.' s, allDigits p = true := by
      unfold unsignedOk at h
      split at h
      · rename_i a heq; rw [heq]; simpa using h
      · rename_i a b heq; rw [heq]; simpa using h
      · cases h
    have := hall p hp
    simp only [allDigits, Bool.and_eq_true, List.all_eq_true] at this
    exact .inl (this.2 c hcp)

theorem e_not_plain (s : Str) (h : 'e' ∈ s) : isPlainDecimal s = false := by
  have key : ∀ t : Str, 'e' ∈ t → unsignedOk t = false := fun t he => by
    cases hu : unsignedOk t with
    | false => rfl
    | true => rcases unsignedOk_chars t hu 'e' he with d | d <;> cases d
  unfold isPlainDecimal
  split
  · exact key _ (by simpa using h)
  · exact key _ (by simpa using h)
  · exact key _ h

/-- outside the plain range the bound is printed with an exponent and the scanner does not read it: the constraint is lost -/
theorem sci_dropped (b excl : Bool) (d : Dec) (h : d.plain = false) :
    parse b (emit (.maximum d excl)) = none ∧ parse b (emit (.minimum d excl)) = none := by
  have hn : parseDec (fmtV d) = none := by
    simp [parseDec, fmtV, h, e_not_plain (sciText d) (by simp [sciText])]
  rw [parse_maximum, parse_minimum, hn]
  exact ⟨rfl, rfl⟩

/-- what the generator prints for the boundary values -/
theorem fmtV_examples :
    String.ofList (fmtV { int := 1000000 }) = "1e+06" ∧ String.ofList (fmtV { int := 999999 }) = "999999" ∧
    String.ofList (fmtV { frac := [0, 0, 0, 0, 1] }) = "1e-05" ∧ String.ofList (fmtV { frac := [0, 0, 0, 1] }) = "0.0001" ∧
    String.ofList (fmtV { int := 123456789 }) = "1.23456789e+08" ∧ String.ofList (fmtV { neg := true, int := 1, frac := [5] }) = "-1.5" ∧
    String.ofList (fmtV { int := 2500000 }) = "2.5e+06" := by decide +kernel

/-- fractional bounds in the plain range (evaluated examples — tests, not a theorem over all fractions) -/
theorem fraction_examples :
    parseDec (fmtV { neg := true, int := 1, frac := [5] }) = some { neg := true, int := 1, frac := [5] } ∧
    parseDec (fmtV { frac := [0, 0, 0, 1] }) = some { frac := [0, 0, 0, 1] } ∧
    parseDec (fmtV { int := 12, frac := [2, 5] }) = some { int := 12, frac := [2, 5] } ∧
    parseDec (fmtV { frac := [0, 0, 0, 0, 1] }) = none := by decide +kernel

theorem multipleOf_rt_iff (b : Bool) (n : Nat) (hp : (intDec false n).plain = true) :
    parse b (emit (.multipleOf (intDec false n))) = (if b then some (.multipleOf (intDec false n)) else none) := by
  rw [parse_multipleOf, parseDec_fmtV_int false n rfl hp]
  rfl

/-- the scanner applies the value it matched (regenerated fact) -/
theorem scanner_applies_multipleOf : Gen.multipleOfApplied = true := by decide

/-- Multiple Of round-trips for every integer value printed without an exponent, as the scanner applies the value -/
theorem multipleOf_preserved (n : Nat) (hp : (intDec false n).plain = true) :
    parse Gen.multipleOfApplied (emit (.multipleOf (intDec false n))) = some (.multipleOf (intDec false n)) := by
  rw [multipleOf_rt_iff _ n hp, scanner_applies_multipleOf]; rfl

/-- non-vacuity of the plain-range hypotheses -/
example : (intDec false 999999).plain = true ∧ (intDec true 5).wf = true ∧ (intDec false 1000000).plain = false := by decide +kernel

end Gs.Props.C18
