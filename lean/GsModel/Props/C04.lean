import GsModel.Pair.Encode
import GsModel.Props.C03
import GsModel.Params.Decimal
/-
  C04 — Generated client and server interoperate losslessly.   (proof on the simple-parameter fragment, PARTIAL)

  `encodeGen` is what the generated client writes for a parameter value, `bindGenAny` (Params/Bind.lean) what the generated
  server binds.
  * `roundtrip_scalar`, `roundtrip_array`, `roundtrip_multi` — for EVERY parameter spec of the fragment and EVERY value that
    satisfies the spec and is representable in the declared collectionFormat, the server binds exactly the value the client
    was given.  Representable = each item, as sent, is not empty, carries no surrounding blanks and does not contain the
    separator (`cleanFor`; `split_join`: SplitByFormat inverts JoinByFormat on such items); the hypothesis is necessary:
    `unrepresentable_differs`.  `roundtrip_absent`: an omitted parameter stays absent.
  * the text of a value converts back to the value (`hconv` of the round-trip theorems): `string_codec`, `bool_codec`, and
    `int_codec` — for EVERY integer in the range of the declared width, parsing the decimal text gives the integer back
    (Params/Decimal.lean: digits of Nat.toDigits fold back to the number; `int_codec_examples`: the ends of the ranges);
    `int_text_scalar_ok` is the scalar round trip with no codec hypothesis left.
  * `dispatch_*` — the decision logic of the client's response switch, stated outright.
  Tie: generated client and generated server of one spec run in one process (httptest); the parameter struct given to the
  client is compared with the one the handler receives, the responder returned by the handler with the result / error the
  client returns, and both with `encodeGen` / `bindGenAny` / `readResp` evaluated on the same inputs.
  Not modelled: bodies (encoding/json on both sides: exercised), number and strfmt formats (exercised), net/http and the
  runtime's URL escaping (exercised).
-/
namespace Gs.Props.C04
open Gs Gs.Params Gs.Pair

theorem cleanFor_spec {sep : Char} {s : Str} (h : cleanFor sep s = true) : s ≠ [] ∧ trimSpace s = s ∧ s.contains sep = false := by
  simp only [cleanFor, Bool.and_eq_true, decide_eq_true_eq, Bool.not_eq_true'] at h
  exact ⟨h.1.1, h.1.2, h.2⟩

/-- SplitByFormat inverts JoinByFormat on representable items -/
theorem split_join (cf : String) (xs : List Str) (hne : xs ≠ []) (hc : ∀ x ∈ xs, cleanFor (sepOf cf) x = true) :
    splitByFormat cf (joinSep (sepOf cf) xs) = xs := by
  have h := C03.splitOn_joinSep (sepOf cf) xs hne (fun x hx => (cleanFor_spec (hc x hx)).2.2)
  have hclean : cleanItems cf (joinSep (sepOf cf) xs) = true := by
    rw [cleanItems, h, List.all_eq_true]
    intro x hx
    have ⟨h1, h2, _⟩ := cleanFor_spec (hc x hx)
    simp [h1, h2]
  rw [C03.clean_split cf _ hclean, h]

theorem mapM_map_some {α β} (f : β → Option α) (g : α → β) (l : List α) (h : ∀ a ∈ l, f (g a) = some a) :
    (l.map g).mapM f = some l := by
  induction l with
  | nil => rfl
  | cons a r ih =>
    simp only [List.map_cons, List.mapM_cons, h a (by simp), ih (fun b hb => h b (List.mem_cons_of_mem _ hb))]
    rfl

theorem arrayCore_ok (p : PSpec) (vs : List Val) (hconv : ∀ v ∈ vs, convert p.ty (fmtVal v) = some v)
    (hv : vs.all (validOne p.v) = true) (hm : validMany p vs = true) : arrayCore p (vs.map fmtVal) = .many vs := by
  rw [C03.arrayCore_eq, mapM_map_some _ _ vs hconv]
  simp [hv, hm]

/-- scalars: the server hands the handler the value the client was given -/
theorem roundtrip_scalar (p : PSpec) (hp : p.isArray = false) (v : Val)
    (hne : fmtVal v ≠ []) (hconv : convert p.ty (fmtVal v) = some v) (hvalid : validOne p.v v = true) :
    bindGenAny p (encodeGen p (.one v)) = .one v := by
  -- the client writes the one text `fmtVal v`; the server's dispatch takes the scalar binder
  simp only [bindGenAny, encodeGen, hp, Bool.false_and, Bool.false_eq_true, if_false]
  rw [C03.bindGen_scalar p hp, List.getLast?_singleton, Option.getD_some, if_neg hne, C03.scalarCore_ok p _ v hconv hvalid]

theorem roundtrip_array (p : PSpec) (hp : p.isArray = true) (hcf : p.cf ≠ "multi") (vs : List Val) (hne : vs ≠ [])
    (hclean : ∀ v ∈ vs, cleanFor (sepOf p.cf) (fmtVal v) = true) (hconv : ∀ v ∈ vs, convert p.ty (fmtVal v) = some v)
    (hv : vs.all (validOne p.v) = true) (hm : validMany p vs = true) :
    bindGenAny p (encodeGen p (.many vs)) = .many vs := by
  have hsj := split_join p.cf (vs.map fmtVal) (by simpa using hne) (List.forall_mem_map.mpr hclean)
  simp [bindGenAny, encodeGen, joinByFormat, hp, hcf, hne, C03.bindGen_array p hp, hsj, arrayCore_ok p vs hconv hv hm]

/-- collectionFormat multi: no hypothesis on the content of the items at all -/
theorem roundtrip_multi (p : PSpec) (hp : p.isArray = true) (hcf : p.cf = "multi") (vs : List Val) (hne : vs ≠ [])
    (hconv : ∀ v ∈ vs, convert p.ty (fmtVal v) = some v) (hv : vs.all (validOne p.v) = true) (hm : validMany p vs = true) :
    bindGenAny p (encodeGen p (.many vs)) = .many vs := by
  simp [bindGenAny, bindGenMulti, encodeGen, hp, hcf, hne, arrayCore_ok p vs hconv hv hm]

/-- an omitted optional parameter stays absent; a required one cannot be omitted -/
theorem roundtrip_absent (p : PSpec) : bindGenAny p (encodeGen p .absent) = (if p.required then .reject else .absent) := by
  simp only [bindGenAny, encodeGen, C03.bindGen_none, C03.bindGenMulti_none, ite_self]

/- the value codecs: text of a value converts back to the value -/
theorem string_codec (x : String) : convert .str (fmtVal (.s x)) = some (.s x) := by
  simp [convert, fmtVal, String.ofList_toList]

theorem bool_codec (b : Bool) : convert .bool (fmtVal (.b b)) = some (.b b) := by
  cases b <;> decide +kernel

/-- integers: strconv-style decimal text converts back to the integer, for EVERY integer in the range of the declared width -/
theorem int_codec (bits : Nat) (n : Int) (hlo : -(2 : Int) ^ (bits - 1) ≤ n) (hhi : n < (2 : Int) ^ (bits - 1)) :
    convert (.int bits) (fmtVal (.i n)) = some (.i n) := by
  have h := parseInt_toString bits n hlo hhi
  simp only [convert, fmtVal, h, Option.map_some]

/-- the scalar round trip for integers, no codec hypothesis left: the text parses back (`int_codec`), so it is not empty -/
theorem int_text_scalar_ok (bits : Nat) (n : Int) (hlo : -(2 : Int) ^ (bits - 1) ≤ n) (hhi : n < (2 : Int) ^ (bits - 1))
    (p : PSpec) (hp : p.isArray = false) (ht : p.ty = .int bits) (hvalid : validOne p.v (.i n) = true) :
    bindGenAny p (encodeGen p (.one (.i n))) = .one (.i n) := by
  apply roundtrip_scalar p hp (.i n)
  · -- the text is not empty: it parses (`int_codec`), the empty text does not
    intro h
    have := int_codec bits n hlo hhi
    rw [h] at this
    simp [convert, parseInt, digitsVal] at this
  · rw [ht]; exact int_codec bits n hlo hhi
  · exact hvalid

theorem int_codec_examples :
    convert (.int 64) (fmtVal (.i 0)) = some (.i 0) ∧ convert (.int 64) (fmtVal (.i (-1))) = some (.i (-1)) ∧
    convert (.int 64) (fmtVal (.i 9223372036854775807)) = some (.i 9223372036854775807) ∧
    convert (.int 64) (fmtVal (.i (-9223372036854775808))) = some (.i (-9223372036854775808)) ∧
    convert (.int 32) (fmtVal (.i 2147483647)) = some (.i 2147483647) ∧ convert (.int 32) (fmtVal (.i 2147483648)) = none := by decide +kernel

/-- the representability hypothesis is necessary (this is the documented limit of collection formats, not a defect) -/
theorem unrepresentable_differs :
    bindGenAny { isArray := true, cf := "csv" } (encodeGen { isArray := true, cf := "csv" } (.many [.s "a,b", .s " c "])) =
      .many [.s "a", .s "b", .s "c"] := by decide +kernel

/-! ### response dispatch -/

theorem dispatch_declared_success (d : List Nat) (df : Bool) (c : Nat) (h : c ∈ d) (h2 : c / 100 = 2) : readResp d df c = .success c := by
  simp [readResp, h, h2]
theorem dispatch_declared_error (d : List Nat) (df : Bool) (c : Nat) (h : c ∈ d) (h2 : c / 100 ≠ 2) : readResp d df c = .typedError c := by
  simp [readResp, h, h2]
theorem dispatch_default_error (d : List Nat) (c : Nat) (h : c ∉ d) (h2 : c / 100 ≠ 2) : readResp d true c = .defaultError c := by
  simp [readResp, h, h2]
theorem dispatch_default_success (d : List Nat) (c : Nat) (h : c ∉ d) (h2 : c / 100 = 2) : readResp d true c = .defaultSuccess c := by
  simp [readResp, h, h2]
theorem dispatch_undeclared (d : List Nat) (c : Nat) (h : c ∉ d) : readResp d false c = .apiError c := by
  simp [readResp, h]
/-- a declared code is never reported through the default or the generic arm, and a success is never reported as an error -/
theorem dispatch_total (d : List Nat) (df : Bool) (c : Nat) :
    (c ∈ d → (readResp d df c = .success c ∨ readResp d df c = .typedError c)) ∧
    (∀ k, readResp d df c = .success k → k / 100 = 2) ∧ (∀ k, readResp d df c = .typedError k → k / 100 ≠ 2) := by
  unfold readResp
  by_cases h : c ∈ d
  · by_cases h2 : c / 100 = 2 <;> simp [h, h2]
  · cases df <;> by_cases h2 : c / 100 = 2 <;> simp [h, h2]

end Gs.Props.C04
