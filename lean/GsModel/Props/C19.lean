import GsModel.Yaml.Scalar
/-
  C19 — JSON and YAML renderings of a spec are interchangeable.   (proof of the decision logic, PARTIAL)

  * `scalar_rt_node`, `scalar_rt_value` — for EVERY plain-scalar resolution function, EVERY lexical rule of the emitter and
    EVERY string other than `<<`: what either YAML write path prints reads back as the same string — because the writer
    quotes exactly when the reader's resolution would not give a string.  Keys are written through the node path too
    (`!!str` nodes: numeric-looking keys such as status codes stay strings): `key_rt` is `scalar_rt_node` said of a key.
  * `merge_unreadable` — the one asymmetric string: where `<<` resolves to a string on the way out (hypothesis `hr`; in
    yaml.v3 its first byte has no entry in the resolver table) it is written plain, but the parser tags a plain `<<` as a
    merge key on the way in: the document cannot be read back (dependency behaviour).
  Tie: every spec-emitting command is run with JSON and YAML input and output on specs seeded with ambiguous scalars;
  the YAML output, read with the toolkit's own reader, must be JSON-equal to the JSON output; every scalar the real writer
  printed plain must read back as itself (the model's only claim about `resolve`).
  Not modelled: yaml.v3's scanner / emitter (assumed inverse on content for each style), number formatting
  (strconv 'f' -1 / ParseFloat: exercised), the YAML → JSON conversion of maps and sequences.
-/
namespace Gs.Props.C19
open Gs.Yaml

theorem scalar_rt_value (e : Emitter) (extra : Str → Bool) (s : Str) (h : s ≠ ['<', '<']) :
    readBack e (writeValue e extra s) = .str s := by
  unfold writeValue
  by_cases hn : s.contains '\n' = true
  · rw [if_pos hn]; rfl
  · rw [if_neg hn]
    by_cases hq : (decide (e.resolve s ≠ .str) || extra s || e.lexical s) = true
    · rw [if_pos hq]; rfl
    · rw [if_neg hq]
      -- printed plain: the writer has checked that the reader's resolution gives a string
      have hr : e.resolve s = .str := by
        simp only [Bool.or_eq_true, decide_eq_true_eq, not_or, Bool.not_eq_true] at hq
        exact Decidable.not_not.mp hq.1.1
      simp [readBack, h, hr]

/-- the node path is the value path without the extra YAML 1.1 tests -/
theorem writeNode_eq_writeValue (e : Emitter) (s : Str) : writeNode e s = writeValue e (fun _ => false) s := by
  simp only [writeNode, writeValue, Bool.or_false]

theorem scalar_rt_node (e : Emitter) (s : Str) (h : s ≠ ['<', '<']) : readBack e (writeNode e s) = .str s := by
  rw [writeNode_eq_writeValue]
  exact scalar_rt_value e _ s h

/-- keys are written through the same node path: a key that looks like a number, a boolean or null stays a string key -/
theorem key_rt (e : Emitter) (k : Str) (h : k ≠ ['<', '<']) : readBack e (writeNode e k) = .str k := scalar_rt_node e k h

/-- `<<`: written plain whenever the resolver says string and the emitter has no lexical objection — and then unreadable -/
theorem merge_unreadable (e : Emitter) (hr : e.resolve ['<', '<'] = .str) (hl : e.lexical ['<', '<'] = false) :
    readBack e (writeNode e ['<', '<']) = .unreadable := by
  simp [writeNode, readBack, hr, hl]

/-- a writer that printed plain without consulting the reader's resolution would corrupt the document: the quoting
    condition is necessary -/
theorem unquoted_number_changes (e : Emitter) (s : Str) (h : e.resolve s = .int) (hs : s ≠ ['<', '<']) :
    readBack e (.plain, s) = .other .int s := by
  simp [readBack, hs, h]

end Gs.Props.C19
