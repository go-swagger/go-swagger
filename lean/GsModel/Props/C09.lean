import GsModel.Text.EscapeLemmas
import GsModel.Text.Tags
import GsModel.Gen.Sites
/-
  C09 — Free text from the spec never becomes code.

  * `block_safe`, `line_safe`, `embed_rt` (module Text.EscapeLemmas, restated here as property theorems): for EVERY
    string, `blockcomment` output contains no `*/`, `comment` output never leaves the `//` lines, and the
    `escapeBackticks` / `generateReadableSpec` expression evaluates back to the original text.
  * `struct_tag_one_token`: the struct tag written by `GenSchema.PrintTags` (Go code, not a template site: with
    `--struct-tags description|example` it carries free text) is, for EVERY list of tags and values, exactly one Go string
    literal — a raw literal with no backtick inside when every value can be back-quoted, one `strconv.Quote`d literal
    otherwise (model of strconv.Quote / CanBackquote tied by the correspondence run), and (`struct_tag_value`) the literal's
    value is exactly the assembled tag text; `quote_is_one_token`: what `strconv.Quote` writes is always one literal;
    `last_value_rule_is_unsafe`: the simplification "only the last value decides" does not have the property.
  * `all_sites_safe`: over the site table REGENERATED on every run by marker rendering (every place a free-text field
    lands in a generated file, its observed lexical context and the transformation observed on probe characters), at every
    site the observed transformation is the one its context needs (`siteOk`); the list of exceptions the statement allows
    for, `knownUnprotected`, is empty.
    `sites_reached`: the table is not trivially small, and no field lands in code position.
-/
namespace Gs.Props.C09
open Gs.Text Gs.Gen

theorem blockcomment_never_closes (s : Str) : hasBlockEnd (blockComment s) = false := block_safe s

theorem comment_stays_in_line_comments (s pad : Str) (hp : '\n' ∉ pad) : inLineComments (padComment s pad) = true :=
  line_safe s pad hp

theorem backticks_roundtrip (s : Str) (h : '\r' ∉ s) : evalGo ('`' :: escBacktick s ++ ['`']) = some s := embed_rt s h

/-- non-vacuity / sanity: the raw text itself does close a block comment and does leave a line comment -/
example : hasBlockEnd "x */ func init() {} /*".toList = true ∧ hasBlockEnd (blockComment "x */ func init() {} /*".toList) = false := by
  decide +kernel
example : inLineComments "a\nfunc init() {}".toList = false ∧ inLineComments (padComment "a\nfunc init() {}".toList [' ']) = true := by
  decide +kernel

/-- the struct tag is one string literal, whatever free text the values carry -/
theorem struct_tag_one_token (tags : List (Tags.Str × Tags.Str)) (custom : Tags.Str)
    (hk : ∀ kv ∈ tags, '`' ∉ kv.1) (hc : '`' ∉ custom) :
    Tags.rawOneToken (Tags.printTags tags custom) = true ∨ Tags.interpOneToken (Tags.printTags tags custom) = true :=
  Tags.printTags_one_token tags custom hk hc

/-- the value of that literal is exactly the tag text: either the raw literal holds `completeTag` verbatim, or the interpreted
    literal unquotes to it (`unquote_quote`: the escapes strconv.Quote writes are undone by the scanner), for every text of the BMP -/
theorem struct_tag_value (tags : List (Tags.Str × Tags.Str)) (custom : Tags.Str)
    (hbmp : ∀ c ∈ Tags.completeTag tags custom, c.toNat < 65536) :
    Tags.printTags tags custom = '`' :: Tags.completeTag tags custom ++ ['`'] ∨
    ∃ body, Tags.printTags tags custom = '"' :: body ++ ['"'] ∧ Tags.unq body = some (Tags.completeTag tags custom) := by
  unfold Tags.printTags
  split
  · exact Or.inl rfl
  · exact Or.inr ⟨Tags.quoteBody _, rfl, Tags.unquote_quote _ hbmp⟩

theorem quote_is_one_token (s : Tags.Str) : Tags.interpOneToken (Tags.quote s) = true := Tags.quote_one_token s

theorem last_value_rule_is_unsafe :
    let tags := [("json".toList, "name".toList), ("description".toList, "a` }; var X = 1; type T struct { F int `b".toList), ("yaml".toList, "name".toList)]
    Tags.rawOneToken (Tags.printTagsLastWins tags []) = false ∧ Tags.interpOneToken (Tags.printTagsLastWins tags []) = false ∧
    (Tags.rawOneToken (Tags.printTags tags []) = true ∨ Tags.interpOneToken (Tags.printTags tags []) = true) :=
  Tags.last_value_rule_is_unsafe

/-- what was observed on the probe characters at a site is what its lexical context needs (a flag of `Site` is true when the
    probe did NOT come through: `blockEnd` says that no `*/` survived, `backtick`, `quote`, `bslash` likewise) -/
def siteOk (s : Site) : Bool :=
  match s.ctx with
  | .line => s.nl == .comment || s.nl == .escaped
  | .block => s.blockEnd
  | .raw => s.backtick
  | .interp => s.quote && s.bslash && s.nl == .escaped
  | .code => false

/-- keys of the sites that are known not to be protected: there is none, so `all_sites_safe` speaks of EVERY reached site -/
def knownUnprotected : List String := []

theorem all_sites_safe : ∀ s ∈ sites, siteOk s = true ∨ s.key ∈ knownUnprotected := by decide +kernel

/-- the table is not trivially small, and no field lands in code position -/
theorem sites_reached : sites.length ≥ 100 ∧ ∀ s ∈ sites, s.ctx ≠ Ctx.code := by decide +kernel

end Gs.Props.C09
