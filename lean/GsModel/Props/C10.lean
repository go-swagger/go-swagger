import GsModel.Text.EscapeLemmas
/-
  C10 — The spec embedded in a generated server is the input spec.

  The documents are pasted into Go raw string literals by `generateReadableSpec` (every backtick becomes
  `` `+"`"+` ``).  Proved for EVERY text without a carriage return: the Go expression evaluates back to the text
  (`embedded_text_is_the_text`), so the escaped text does not terminate the literal early or leave the concatenation shape
  (`embedded_shape`; `readable_evaluates`: the helper as it is, byte order marks included); and the only characters a raw
  literal would alter (carriage returns) cannot occur in `encoding/json` output (`json_text_has_no_cr`, hence
  `json_string_embeds`, for `jsonString`, the model of its string printer defined below).  That the flattened document describes the same API (analysis.Flatten, a dependency, plus the
  in-place rewrites of model planning) is decided by the check on the real generator, not by a theorem: partial.
-/
namespace Gs.Props.C10
open Gs.Text

theorem embedded_text_is_the_text (s : Str) (h : '\r' ∉ s) : evalGo ('`' :: escBacktick s ++ ['`']) = some s := embed_rt s h

/-- the embedding never produces a text that fails to be a concatenation of raw literals and "`" -/
theorem embedded_shape (s : Str) (h : '\r' ∉ s) : (evalGo ('`' :: escBacktick s ++ ['`'])).isSome = true := by
  rw [embed_rt s h]; rfl

/-- the helper as it is (backticks, and byte order marks as JSON escapes): the expression evaluates to the text in which
    every U+FEFF is spelled `\\ufeff` - the same JSON value - and to the text itself when there is none; the embedded
    source never contains a raw byte order mark (which the Go compiler rejects) -/
theorem readable_evaluates (s : Str) (h : '\r' ∉ s) :
    evalGo ('`' :: readable s ++ ['`']) = some (escBOM s) ∧ ('\uFEFF' ∉ s → escBOM s = s) ∧ '\uFEFF' ∉ escBOM s :=
  -- `readable s` is `escBacktick (escBOM s)`
  ⟨embed_rt (escBOM s) (escBOM_no_cr s h), escBOM_id s, escBOM_no_bom s⟩

/-- JSON string printer for the characters that matter here: control characters are written as escapes -/
def jsonEscChar (c : Char) : Str :=
  if c = '"' then ['\\', '"'] else if c = '\\' then ['\\', '\\']
  else if c = '\n' then ['\\', 'n'] else if c = '\r' then ['\\', 'r'] else if c = '\t' then ['\\', 't']
  else if c.toNat < 0x20 then ['\\', 'u', '0', '0', Nat.digitChar (c.toNat / 16), Nat.digitChar (c.toNat % 16)]
  else [c]

def jsonString (s : Str) : Str := '"' :: (s.flatMap jsonEscChar) ++ ['"']

theorem jsonEscChar_no_cr (c : Char) : '\r' ∉ jsonEscChar c := by
  -- down the chain of `if`s: the fixed texts are inspected, and `c` itself is written only after `c = '\r'` was refuted
  have step {p : Prop} [Decidable p] {a b : Str} (ha : p → '\r' ∉ a) (hb : ¬p → '\r' ∉ b) :
      '\r' ∉ if p then a else b := iteInduction (motive := ('\r' ∉ ·)) ha hb
  unfold jsonEscChar
  refine step (fun _ => by decide) fun _ => ?_
  refine step (fun _ => by decide) fun _ => ?_
  refine step (fun _ => by decide) fun _ => ?_
  refine step (fun _ => by decide) fun hr => ?_
  refine step (fun _ => by decide) fun _ => ?_
  refine step (fun h => ?_) fun _ => ?_
  · have digit : ∀ n, n < 16 → '\r' ≠ Nat.digitChar n := by decide
    simp only [List.mem_cons, List.not_mem_nil, or_false, not_or]
    exact ⟨by decide, by decide, by decide, by decide, digit _ (Nat.div_lt_of_lt_mul (Nat.lt_trans h (by decide))), digit _ (Nat.mod_lt _ (by decide))⟩
  · exact fun hm => hr (List.mem_singleton.mp hm).symm

theorem json_text_has_no_cr (s : Str) : '\r' ∉ jsonString s := by
  simp only [jsonString, List.mem_cons, List.mem_append, List.mem_flatMap, List.not_mem_nil, or_false, not_or, not_exists,
    not_and]
  exact ⟨⟨by decide, fun c _ => jsonEscChar_no_cr c⟩, by decide⟩

/-- hence every JSON string, whatever its content, survives the embedding -/
theorem json_string_embeds (s : Str) :
    evalGo ('`' :: escBacktick (jsonString s) ++ ['`']) = some (jsonString s) :=
  embed_rt _ (json_text_has_no_cr s)

example : evalGo ('`' :: escBacktick (jsonString "a`b\r\"c".toList) ++ ['`']) = some (jsonString "a`b\r\"c".toList) :=
  json_string_embeds _

end Gs.Props.C10
