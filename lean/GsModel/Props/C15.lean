import GsModel.Diff.CmpLemmas
/-
  C15 — diff: ignore file, report formats and exit status are coherent.

  Proved about the model (GsModel/Diff/Report.lean) over the REGENERATED tables `Gs.Gen.showCode/showCompat/longCode`
  (so an edit to a string table is re-checked on every run):
  * `code_rt`, `compat_rt`, `code_strings_total`   — the JSON names round-trip for every code (complete finite quantifier);
                                                     `showCode_injective` follows.
  * `node_rt`, `diff_rt`                           — encode → decode of a whole difference is the identity (omitempty rules).
  * `matches_iff`                                  — Matches is equality of entries.
  * `ignore_all`, `ignore_mem`, `ignore_sub`       — filtering removes exactly the listed entries and nothing else.
  * `exit_iff_text` (`exit_iff_txt`: full report)  — text modes: exit status ≠ 0 exactly when a non-ignored Breaking entry exists.
  * `exit_json_zero`, `exit_json_fails`            — the statement is FALSE for `-f json` (exit status 0 with a Breaking entry):
                                                     known finding, pinned by TestDiffProcessIgnores, not repairable.
  * `sections_perm`, `breaking_only_section`, `text_contains_breaking`
                                                   — text / breaking-only reports list every entry of a class exactly once.
  * `formats_read_the_filtered_list`, `breaking_only_respects_ignores`, `breaking_only_ignore_all`,
    `breaking_only_exit_zero_when_breaking_ignored` — every format reads the list AFTER the ignore file was applied.
-/
namespace Gs.Props.C15
open Gs Gs.Gen Gs.Diff

theorem code_strings_total : ∀ c : Code, (showCode c).isSome = true ∧ (longCode c).isSome = true :=
  Code.forall_of_all (by decide +kernel)

theorem code_rt : ∀ c : Code, parseCode (marshalCode c) = some c :=
  Code.forall_of_all (by decide +kernel)

theorem compat_rt : ∀ c : Compat, parseCompat (marshalCompat c) = some c :=
  Compat.forall_of_all (by decide +kernel)

/-- injectivity (what makes the inverse table built in `init` independent of map iteration order) -/
theorem showCode_injective : ∀ a b : Code, marshalCode a = marshalCode b → a = b :=
  fun a b h => Option.some.inj ((code_rt a).symm.trans (h ▸ code_rt b))

/-! ### JSON shape of a difference: encode → decode is the identity

  Every optional field is `omitempty`: written iff its value is not the zero value, and a reader that does not find a
  field returns the zero value.  `get_omit` says what a lookup sees of such a field, `getStr_omit` … `getNum_omit` that the
  reader gets the value back either way; `decodeNode_of_fields`, `decodeDiff_of_fields` say which reads the decoders make. -/

theorem get_nil (k : String) : (JS.obj []).get k = none := rfl

theorem get_cons (k' k : String) (v : JS) (fs : List (String × JS)) :
    (JS.obj ((k', v) :: fs)).get k = if k' = k then some v else (JS.obj fs).get k := by
  by_cases h : k' = k <;> simp [JS.get, h]

theorem get_omit (c : Prop) [Decidable c] (k' k : String) (v : JS) (fs : List (String × JS)) :
    (JS.obj ((if c then [(k', v)] else []) ++ fs)).get k = if c ∧ k' = k then some v else (JS.obj fs).get k := by
  by_cases h : c <;> simp [h, get_cons]

theorem get_omit_last (c : Prop) [Decidable c] (k' k : String) (v : JS) :
    (JS.obj (if c then [(k', v)] else [])).get k = if c ∧ k' = k then some v else none := by
  have h := get_omit c k' k v []
  rwa [List.append_nil] at h

theorem getStr_str {j : JS} {k s : String} (h : j.get k = some (.str s)) : getStr j k = s := by
  unfold getStr; rw [h]

theorem getStr_omit {j : JS} {k s : String} (h : j.get k = if s ≠ "" then some (.str s) else none) : getStr j k = s := by
  unfold getStr; rw [h]
  by_cases hs : s = ""
  · subst hs; rfl
  · rw [if_pos hs]

theorem getBool_omit {j : JS} {k : String} {b : Bool} (h : j.get k = if b then some .tt else none) : getBool j k = b := by
  unfold getBool; rw [h]; cases b <;> rfl

theorem getNum_omit {j : JS} {k : String} {n : Nat} (h : j.get k = if n ≠ 0 then some (.num n) else none) : getNum j k = n := by
  unfold getNum; rw [h]
  by_cases hn : n = 0
  · subst hn; rfl
  · rw [if_pos hn]

theorem decodeNode_of_fields (n : Nat) (j : JS) (s : NodeSeg) (o : Option JS) (hf : getStr j "name" = s.field)
    (ht : getStr j "type" = s.typeName) (ha : getBool j "is_array" = s.isArray) (hc : j.get "child" = o) :
    decodeNode (n+1) j = s :: o.elim [] (decodeNode n) := by
  rw [decodeNode, hf, ht, ha, hc]
  cases o <;> rfl

theorem node_rt (l : List NodeSeg) (n : Nat) (h : l.length ≤ n) : (encodeNode l).elim [] (decodeNode n) = l := by
  induction l generalizing n with
  | nil => rfl
  | cons s rest ih =>
    cases n with
    | zero => nomatch h
    | succ n =>
      -- four goals, one per read of the decoder: what `get` finds under "name", "type", "is_array", "child"
      refine (decodeNode_of_fields n _ s (encodeNode rest) (getStr_omit ?_) (getStr_omit ?_) (getBool_omit ?_) ?_).trans
        (congrArg _ (ih n (Nat.le_of_succ_le_succ h)))
      all_goals simp only [List.append_assoc, get_omit, String.reduceEq, and_true, and_false, if_false]
      -- what is left of each lookup is the "child" field, there iff the chain goes on
      all_goals cases encodeNode rest <;> simp only [get_cons, get_nil, String.reduceEq, if_false, if_true]

theorem decodeDiff_of_fields (n : Nat) (j l : JS) (d : Diff) (o : Option JS) (hl : j.get "location" = some l)
    (hc : getStr j "code" = marshalCode d.code) (hk : getStr j "compatibility" = marshalCompat d.compat)
    (hi : getStr j "info" = d.info) (hu : getStr l "url" = d.loc.url) (hm : getStr l "method" = d.loc.method)
    (hr : getNum l "response" = d.loc.response) (ho : l.get "node" = o) (hn : o.elim [] (decodeNode n) = d.loc.node) :
    decodeDiff n j = some d := by
  obtain ⟨⟨u, m, r, nd⟩, c, k, i⟩ := d
  subst hn
  simp only [decodeDiff, hl, hc, hk, code_rt, compat_rt, hi, hu, hm, hr, ho]
  cases o <;> rfl

/-- the JSON report can be read back verbatim: every difference survives the round trip -/
theorem diff_rt (d : Diff) (n : Nat) (hn : d.loc.node.length ≤ n) : decodeDiff n (encodeDiff d) = some d := by
  -- one goal per read, in the order of the hypotheses of `decodeDiff_of_fields`: "code", "compatibility", "info", then
  -- "url", "method", "response", "node" of the location
  refine decodeDiff_of_fields n _ _ d (encodeNode d.loc.node) (get_cons ..) (getStr_str ?_) (getStr_str ?_) (getStr_omit ?_)
    (getStr_str ?_) (getStr_omit ?_) (getNum_omit ?_) ?_ (node_rt d.loc.node n hn)
  all_goals simp only [encodeDiff, List.cons_append, List.nil_append, List.append_assoc, get_cons, get_omit, get_omit_last,
    String.reduceEq, and_true, and_false, if_true, if_false]
  all_goals cases encodeNode d.loc.node <;> simp only [get_cons, get_nil, String.reduceEq, if_false, if_true]

theorem equalNodes_iff (a b : List NodeSeg) : equalNodes a b = true ↔ a = b := by
  induction a generalizing b with
  | nil => cases b <;> simp [equalNodes]
  | cons a as ih =>
    cases b with
    | nil => simp [equalNodes]
    | cons b bs =>
      simp only [equalNodes, Bool.and_eq_true, beq_iff_eq, ih bs, List.cons.injEq]
      constructor
      · rintro ⟨⟨⟨h1, h2⟩, h3⟩, h4⟩
        refine ⟨?_, h4⟩
        cases a; cases b; simp_all
      · rintro ⟨h, h4⟩
        subst h
        exact ⟨⟨⟨rfl, rfl⟩, rfl⟩, h4⟩

theorem matches_iff (a b : Diff) : a.matches b = true ↔ a = b := by
  unfold Diff.matches equalLocations
  simp only [Bool.and_eq_true, decide_eq_true_eq, beq_iff_eq, equalNodes_iff]
  constructor
  · rintro ⟨⟨⟨h1, h2⟩, h3⟩, ⟨⟨⟨h4, h5⟩, h6⟩, h7⟩⟩
    cases a with | mk la ca ka ia => cases b with | mk lb cb kb ib =>
    cases la; cases lb; simp_all
  · rintro rfl
    exact ⟨⟨⟨rfl, rfl⟩, rfl⟩, ⟨⟨⟨rfl, rfl⟩, rfl⟩, rfl⟩⟩

theorem contains_eq (l : List Diff) (d : Diff) : contains l d = decide (d ∈ l) := by
  rw [Bool.eq_iff_iff]
  simp only [contains, List.any_eq_true, matches_iff, exists_eq_right, decide_eq_true_eq]

/-- an entry as the analyser produces it: its compatibility is the one `addDiff` computes -/
def Canonical (d : Diff) : Prop := d.compat = getCompatibilityForChange d.code (d.loc.response > 0)

theorem recompute_canonical (d : Diff) (h : Canonical d) : recompute d = d := by
  unfold recompute; rw [← h]

/-- feeding the whole report back as ignore file leaves nothing -/
theorem ignore_all (ds : List Diff) : filterIgnores ds ds = [] := by
  simp only [filterIgnores, contains_eq, List.map_eq_nil_iff, List.filter_eq_nil_iff]
  intro d hd
  simp [hd]

theorem ignore_sub (ds ig : List Diff) (hc : ∀ d ∈ ds, Canonical d) :
    filterIgnores ds ig = ds.filter (fun d => decide (d ∉ ig)) := by
  simp only [filterIgnores, contains_eq, ← decide_not]
  exact (List.map_congr_left fun d hd => recompute_canonical d (hc d (List.mem_filter.mp hd).1)).trans (List.map_id _)

/-- ignoring a subset removes exactly those entries and nothing else -/
theorem ignore_mem (ds ig : List Diff) (hc : ∀ d ∈ ds, Canonical d) (d : Diff) :
    d ∈ filterIgnores ds ig ↔ d ∈ ds ∧ d ∉ ig := by
  rw [ignore_sub ds ig hc, List.mem_filter, decide_eq_true_eq]

theorem reportCompatibility_fails (ds : List Diff) : (reportCompatibility ds).2 = decide (breakingCount ds > 0) := by
  simp only [reportCompatibility]
  by_cases h : breakingCount ds > 0
  · rw [if_pos h, decide_eq_true h]
  · rw [if_neg h, decide_eq_false h]

theorem reportAllText_fails (ds : List Diff) : (reportAllText ds).2 = (reportCompatibility ds).2 := by
  cases ds <;> rfl

/-- both text modes exit with the status of `ReportCompatibility` on the filtered list -/
theorem execute_text (brk : Bool) (ds ig : List Diff) :
    (execute false brk ds ig).2 = (reportCompatibility (filterIgnores ds ig)).2 := by
  cases brk
  · exact reportAllText_fails _
  · rfl

theorem exit_iff_text (brk : Bool) (ds ig : List Diff) :
    (execute false brk ds ig).2 = true ↔ breakingCount (filterIgnores ds ig) > 0 := by
  rw [execute_text, reportCompatibility_fails, decide_eq_true_iff]

theorem exit_iff_txt (ds ig : List Diff) :
    (execute false false ds ig).2 = true ↔ breakingCount (filterIgnores ds ig) > 0 :=
  exit_iff_text false ds ig

/-- `-f json`: the command exits 0 whatever the report contains -/
theorem exit_json_zero (brk : Bool) (ds ig : List Diff) : (execute true brk ds ig).2 = false := by
  cases brk <;> rfl

def breakingEntry : Diff :=
  { loc := { url := "/a", method := "get" }, code := Code.DeletedEndpoint, compat := Compat.Breaking }

/-- the exit-status half of the property fails for the JSON format (known finding; `TestDiffProcessIgnores` pins it) -/
theorem exit_json_fails : breakingCount (filterIgnores [breakingEntry] []) > 0 ∧ (execute true false [breakingEntry] []).2 = false := by
  decide

/-- non-vacuity of the text-mode theorem: the same entry makes the text modes exit non-zero -/
example : (execute false false [breakingEntry] []).2 = true ∧ (execute false true [breakingEntry] []).2 = true := by decide

/-! ### the text renderings list the same entries: each class section every entry of its class, once -/

/-- each section of the text report lists every entry of its class exactly once -/
theorem sections_perm (ds : List Diff) (c : Compat) :
    (reportChanges ds c).Perm ((ds.filter (fun d => d.compat = c)).map Diff.render) :=
  sortStrs_perm _

/-- the breaking-only report prints exactly the Breaking section (framed by fixed lines) -/
theorem breaking_only_section (ds : List Diff) (h : breakingCount ds > 0) :
    ∃ pre post, (reportCompatibility ds).1 = pre ++ reportChanges ds Compat.Breaking ++ post ∧
      (∀ l ∈ pre, l = "" ∨ l = "BREAKING CHANGES:" ∨ l = "=================") ∧ post.length = 1 := by
  simp only [reportCompatibility, if_pos h]
  refine ⟨_, _, rfl, fun l hl => ?_, rfl⟩
  split at hl
  · simpa using hl
  · exact Or.inr (by simpa using hl)

/-- in the full text report every non-empty class section is present: Breaking entries appear in it as well -/
theorem text_contains_breaking (ds : List Diff) (h : breakingCount ds > 0) (d : Diff) (hd : d ∈ ds)
    (hb : d.compat = Compat.Breaking) : d.render ∈ (reportAllText ds).1 := by
  have hmem : d.render ∈ reportChanges ds Compat.Breaking :=
    (sections_perm ds Compat.Breaking).mem_iff.mpr (List.mem_map_of_mem (List.mem_filter.mpr ⟨hd, decide_eq_true hb⟩))
  have hne : ds.length ≠ 0 := Nat.ne_of_gt (List.length_pos_of_mem hd)
  simp only [reportAllText, reportCompatibility, if_neg hne, if_pos h, List.mem_append]
  exact Or.inr (Or.inl (Or.inr hmem))

/-! ### the three reports describe the same set: every format reads the list AFTER the ignore file was applied -/

/-- the breaking-only report under an ignore file: its Breaking section lists exactly the Breaking entries of the report
    that the ignore file does not name (as a multiset of rendered lines) — an ignored entry cannot be printed, whatever
    the format flags -/
theorem breaking_only_respects_ignores (ds ig : List Diff) (hc : ∀ d ∈ ds, Canonical d) :
    (reportChanges (filterIgnores ds ig) Compat.Breaking).Perm
      ((ds.filter (fun d => decide (d ∉ ig) && decide (d.compat = Compat.Breaking))).map Diff.render) := by
  have h := sections_perm (filterIgnores ds ig) Compat.Breaking
  rwa [ignore_sub ds ig hc, List.filter_filter, List.filter_congr fun d _ => Bool.and_comm _ _, ← ignore_sub ds ig hc] at h

/-- `-b` with the whole report as ignore file: the fixed OK line, exit 0 -/
theorem breaking_only_ignore_all (ds : List Diff) :
    execute false true ds ds = (.text ["compatibility test OK. No breaking changes identified."], false) := by
  unfold execute
  simp [ignore_all, reportCompatibility, breakingCount]

/-- the JSON report, the text report and the breaking-only report are all computed from `filterIgnores ds ig`: the JSON
    report IS that list; the exit status of the two text reports is the same function of it -/
theorem formats_read_the_filtered_list (ds ig : List Diff) :
    (execute true false ds ig).1 = .json (filterIgnores ds ig) ∧
    (execute false false ds ig).2 = (execute false true ds ig).2 :=
  ⟨rfl, (execute_text false ds ig).trans (execute_text true ds ig).symm⟩

/-- an ignored Breaking entry never decides the exit status of `-b`: with every Breaking entry ignored the command exits 0 -/
theorem breaking_only_exit_zero_when_breaking_ignored (ds ig : List Diff) (hc : ∀ d ∈ ds, Canonical d)
    (h : ∀ d ∈ ds, d.compat = Compat.Breaking → d ∈ ig) : (execute false true ds ig).2 = false := by
  have hz : breakingCount (filterIgnores ds ig) = 0 :=
    List.length_eq_zero_iff.mpr (List.filter_eq_nil_iff.mpr fun d hd hb =>
      have ⟨hds, hig⟩ := (ignore_mem ds ig hc d).mp hd
      hig (h d hds (of_decide_eq_true hb)))
  rw [execute_text, reportCompatibility_fails, hz]; rfl

end Gs.Props.C15
