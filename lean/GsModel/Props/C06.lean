import GsModel.Sec.Serve
/-
  C06 — Generated server enforces security requirements exactly.

  Theorems about the decision model (tied to generated servers by running them against stub authenticators over all
  credential assignments), for ALL requirement lists and ALL credential assignments:
  * `open_when_empty`     — an empty effective requirement (no global one, or `security: []`) serves without credentials.
  * `op_overrides_global` — the operation's own list, even empty, replaces the global one; `explicit_empty_opens`:
                            `security: []` on the operation opens it.
  * `sound`               — the handler runs with a principal only if some alternative has every scheme authenticating,
                            and the principal is the answer of one of that alternative's schemes.
  * `anonymous_only_if_allowed` — the handler runs without principal only if the requirement is empty or lists `{}`.
  * `reject_when_unsatisfied`  — if no alternative authenticates and none is anonymous the handler does not run.
-/
namespace Gs.Props.C06
open Gs.Sec

theorem open_when_empty (global : List Alt) (op : Option (List Alt)) (cred : String → Res)
    (h : effective global op = []) : serve global op cred = .handler none := by
  simp [serve, h]

theorem op_overrides_global (global l : List Alt) : effective global (some l) = l ∧ effective global none = global := ⟨rfl, rfl⟩

/-- `security: []` on the operation opens it whatever the global requirement -/
theorem explicit_empty_opens (global : List Alt) (cred : String → Res) : serve global (some []) cred = .handler none := rfl

theorem authAlt_ok (cred : String → Res) (a : Alt) (last : Option String) (p : String) (h : authAlt cred a last = .ok (some p)) :
    altAuthenticates cred a ∧ ((∃ s ∈ a, cred s = .ok p) ∨ last = some p) := by
  induction a generalizing last with
  | nil => exact ⟨fun _ hs => (nomatch hs), .inr (AltRes.ok.inj h)⟩
  | cons s rest ih =>
    simp only [authAlt] at h
    have lift : (∃ t ∈ rest, cred t = .ok p) → ∃ t ∈ s :: rest, cred t = .ok p :=
      fun ⟨t, ht, e⟩ => ⟨t, List.mem_cons_of_mem _ ht, e⟩
    cases hc : cred s with
    | notApplies => rw [hc] at h; cases h
    | err c => rw [hc] at h; cases h
    | okNil =>
      rw [hc] at h
      obtain ⟨ha, hp⟩ := ih none h
      exact ⟨List.forall_mem_cons.2 ⟨.inl hc, ha⟩, .inl (hp.elim lift fun e => nomatch e)⟩
    | ok q =>
      rw [hc] at h
      obtain ⟨ha, hp⟩ := ih (some q) h
      exact ⟨List.forall_mem_cons.2 ⟨.inr ⟨q, hc⟩, ha⟩,
        .inl (hp.elim lift fun e => ⟨s, List.mem_cons_self, hc.trans (congrArg Res.ok (Option.some.inj e))⟩)⟩

/-- why the handler was reached: without principal because an anonymous alternative was met, with principal `p` through a
    non-empty alternative that `authAlt` answers with `p` -/
def Reached (cred : String → Res) (alts : List Alt) (anon : Bool) : Option String → Prop
  | none => anon = true ∨ ∃ a ∈ alts, a = []
  | some p => ∃ a ∈ alts, a ≠ [] ∧ authAlt cred a none = .ok (some p)

theorem Reached.cons {cred : String → Res} {rest : List Alt} {anon anon' : Bool} {x : Option String} (a : Alt)
    (h : anon' = true → anon = true ∨ a = []) (hx : Reached cred rest anon' x) : Reached cred (a :: rest) anon x := by
  cases x with
  | none =>
    rcases hx with e | ⟨b, hb, e⟩
    · exact (h e).imp_right fun e => ⟨a, List.mem_cons_self, e⟩
    · exact .inr ⟨b, List.mem_cons_of_mem _ hb, e⟩
  | some p =>
    obtain ⟨b, hb, r⟩ := hx
    exact ⟨b, List.mem_cons_of_mem _ hb, r⟩

theorem authAlts_handler (cred : String → Res) (alts : List Alt) (le : Option Nat) (anon : Bool) (x : Option String)
    (h : authAlts cred alts le anon = .handler x) : Reached cred alts anon x := by
  induction alts generalizing le anon with
  | nil =>
    cases le with
    | some c => cases h
    | none =>
      cases anon with
      | true => cases h; exact .inl rfl
      | false => cases h
  | cons a rest ih =>
    simp only [authAlts] at h
    split at h
    · next he => exact (ih le true h).cons a fun _ => .inr (List.isEmpty_iff.mp he)
    · next he =>
      have keep : ∀ le', authAlts cred rest le' anon = .handler x → Reached cred (a :: rest) anon x :=
        fun le' h' => (ih le' anon h').cons a .inl
      split at h
      · next p hr => cases h; exact ⟨a, List.mem_cons_self, fun e => he (e ▸ rfl), hr⟩
      · exact keep _ h
      · exact keep _ h

/-- how `serve` reaches the handler: the operation is open, or `authAlts` let the request through -/
theorem serve_handler (global : List Alt) (op : Option (List Alt)) (cred : String → Res) (x : Option String)
    (h : serve global op cred = .handler x) :
    (effective global op = [] ∧ x = none) ∨ Reached cred (effective global op) false x := by
  unfold serve at h
  by_cases he : (effective global op).isEmpty = true
  · rw [if_pos he] at h
    exact .inl ⟨List.isEmpty_iff.mp he, (Outcome.handler.inj h).symm⟩
  · rw [if_neg he] at h
    exact .inr (authAlts_handler cred _ none false x h)

/-- the handler runs with a principal only if one alternative of the effective requirement is fully authenticated,
    and the principal handed over is what one of its schemes' authenticators returned -/
theorem sound (global : List Alt) (op : Option (List Alt)) (cred : String → Res) (p : String)
    (h : serve global op cred = .handler (some p)) :
    ∃ a ∈ effective global op, a ≠ [] ∧ altAuthenticates cred a ∧ ∃ s ∈ a, cred s = .ok p := by
  rcases serve_handler global op cred _ h with ⟨_, e⟩ | ⟨a, ha, hne, hr⟩
  · cases e
  · obtain ⟨hall, hp⟩ := authAlt_ok cred a none p hr
    exact ⟨a, ha, hne, hall, hp.resolve_right fun e => nomatch e⟩

/-- the handler runs without a principal only for an open operation or when the requirement lists the empty alternative -/
theorem anonymous_only_if_allowed (global : List Alt) (op : Option (List Alt)) (cred : String → Res)
    (h : serve global op cred = .handler none) : effective global op = [] ∨ ∃ a ∈ effective global op, a = [] :=
  (serve_handler global op cred _ h).imp And.left (·.resolve_left fun e => nomatch e)

/-- a request that satisfies no alternative does not reach the handler -/
theorem reject_when_unsatisfied (global : List Alt) (op : Option (List Alt)) (cred : String → Res)
    (hne : effective global op ≠ []) (hno : ∀ a ∈ effective global op, a ≠ [] ∧ ¬ altAuthenticates cred a) :
    ∃ c, serve global op cred = .reject c := by
  cases hs : serve global op cred with
  | reject c => exact ⟨c, rfl⟩
  | handler p =>
    cases p with
    | none =>
      rcases anonymous_only_if_allowed global op cred hs with e | ⟨a, ha, e⟩
      · exact absurd e hne
      · exact absurd e (hno a ha).1
    | some p =>
      obtain ⟨a, ha, _, hauth, _⟩ := sound global op cred p hs
      exact absurd hauth (hno a ha).2

/- non-vacuity: AND / OR shapes on concrete credentials -/
def credOf (good : List String) (s : String) : Res := if good.contains s then .ok (s ++ ":good") else .notApplies

example : serve [["key"]] (some [["basic", "key"], ["oauth"]]) (credOf ["oauth"]) = .handler (some "oauth:good") := by decide
example : serve [["key"]] (some [["basic", "key"], ["oauth"]]) (credOf ["basic"]) = .reject 401 := by decide
example : serve [["key"]] none (credOf []) = .reject 401 ∧ serve [["key"]] (some []) (credOf []) = .handler none := by decide

end Gs.Props.C06
