import GsModel.Ops.Regen
import GsModel.Base.Hoare
import GsModel.Gen.Layout
/-
  C11 — Regeneration never destroys user code and converges.

  Theorems about the write-policy state machine, for ALL finite histories of runs and user actions (induction over the
  list of operations), plus the regenerated layout facts that say which templates carry SkipExists:
  * `fsGet_fsSet`, `write_other`, `run_other`   — a run only touches the paths it names.
  * `user_preserved`     — a path no run of the history is responsible for holds the last user content (or its initial one).
  * `no_delete`          — nothing that exists is ever removed.
  * `configure_kept`     — a path only ever written with SkipExists keeps its content once present: only the user changes it.
  * `converges`, `independent_of_prior_state` — after a run every file it writes without skipping holds exactly the
                           content a generation into an empty directory gives.
  * `only_configure_skips`, `configure_present`, `regenerate_clears_skip`, `config_layout_roundtrip`,
    `implementation_layout_never_skips`, `stratoscale_layout_never_skips` — over the layout tables regenerated from the
    live `GenOpts.Sections`.
-/
namespace Gs.Props.C11
open Gs Gs.Regen

theorem fsGet_fsSet (fs : FS) (p c q : String) : fsGet (fsSet fs p c) q = if p = q then some c else fsGet fs q := by
  induction fs with
  | nil => rfl
  | cons rd tl ih =>
    simp only [fsGet] at ih ⊢
    unfold fsSet
    by_cases hr : rd.1 = p <;> by_cases hp : p = q <;> simp_all [lookup]

theorem write_other (fs : FS) (w : W) (q : String) (h : q ≠ w.path) : fsGet (write fs w) q = fsGet fs q := by
  unfold write
  split
  · rfl
  · rw [fsGet_fsSet, if_neg (Ne.symm h)]

/-- a run leaves every path it does not name untouched -/
theorem run_other : ∀ (r : List W) (fs : FS) (q : String), (∀ w ∈ r, q ≠ w.path) → fsGet (applyRun fs r) q = fsGet fs q :=
  fun r fs q h => foldl_inv (fun fs' => fsGet fs' q = fsGet fs q) write r fs rfl
    fun fs' w hw e => (write_other fs' w q (h w hw)).trans e

theorem set_keeps (fs : FS) (p c q : String) (h : (fsGet fs q).isSome) : (fsGet (fsSet fs p c) q).isSome := by
  rw [fsGet_fsSet]
  split
  · rfl
  · exact h

theorem write_keeps (fs : FS) (w : W) (q : String) (h : (fsGet fs q).isSome) : (fsGet (write fs w) q).isSome := by
  unfold write
  split
  · exact h
  · exact set_keeps fs _ _ q h

theorem run_keeps (r : List W) (fs : FS) (q : String) (h : (fsGet fs q).isSome) : (fsGet (applyRun fs r) q).isSome :=
  foldl_inv (fun fs' => (fsGet fs' q).isSome) write r fs h fun fs' w _ => write_keeps fs' w q

/-- files are never removed, whatever the history -/
theorem no_delete : ∀ (ops : List Op) (fs : FS) (q : String), (fsGet fs q).isSome → (fsGet (exec fs ops) q).isSome :=
  fun ops fs q h => foldl_inv (fun fs' => (fsGet fs' q).isSome) step ops fs h fun fs' op _ h' =>
    match op with
    | .run r => run_keeps r fs' q h'
    | .user p c => set_keeps fs' p c q h'

/-- the accumulator of `lastUser` is only a default -/
theorem lastUser_acc (q : String) (ops : List Op) (acc : Option String) :
    lastUser q ops acc = (lastUser q ops none).or acc := by
  induction ops generalizing acc with
  | nil => rfl
  | cons op tl ih =>
    cases op with
    | run _ => exact ih acc
    | user p c =>
      simp only [lastUser]
      rw [ih (if p = q then some c else acc), ih (if p = q then some c else none)]
      cases lastUser q tl none with
      | some _ => rfl
      | none => by_cases h : p = q <;> simp [h]

/-- `lastUser`, started from what `q` holds, follows the content of `q` through a history none of whose runs names `q` -/
theorem exec_lastUser (q : String) (ops : List Op) (fs : FS) (hn : ∀ op ∈ ops, op.names q = false) :
    fsGet (exec fs ops) q = lastUser q ops (fsGet fs q) := by
  induction ops generalizing fs with
  | nil => rfl
  | cons op tl ih =>
    refine (ih (step fs op) fun o ho => hn o (List.mem_cons_of_mem _ ho)).trans ?_
    cases op with
    | run r =>
      have hr : ∀ w ∈ r, q ≠ w.path := by
        have := hn (.run r) List.mem_cons_self
        simp only [Op.names, List.any_eq_false, decide_eq_true_eq] at this
        exact fun w hw e => this w hw e.symm
      show lastUser q tl (fsGet (applyRun fs r) q) = _
      rw [run_other r fs q hr]
      rfl
    | user p c =>
      show lastUser q tl (fsGet (fsSet fs p c) q) = _
      rw [fsGet_fsSet]
      rfl

/-- a path that no run of the history names holds the last content the user gave it (else what it held initially):
    files the generator did not produce are never modified or removed -/
theorem user_preserved : ∀ (ops : List Op) (fs : FS) (q : String), (∀ op ∈ ops, op.names q = false) →
    fsGet (exec fs ops) q = (match lastUser q ops none with | some c => some c | none => fsGet fs q) :=
  fun ops fs q hn => by
    rw [exec_lastUser q ops fs hn, lastUser_acc]
    cases lastUser q ops none <;> rfl

/-- all writes of a run to `q` carry SkipExists -/
def skipsOnly (q : String) (r : List W) : Prop := ∀ w ∈ r, w.path = q → w.skip = true

theorem write_skip_kept (fs : FS) (w : W) (q c : String) (hq : fsGet fs q = some c) (hs : w.path = q → w.skip = true) :
    fsGet (write fs w) q = some c := by
  by_cases e : w.path = q
  · simp [write, hs e, e, hq]
  · rw [write_other fs w q (Ne.symm e)]; exact hq

theorem run_skip_kept (r : List W) (fs : FS) (q c : String) (h : fsGet fs q = some c) (hs : skipsOnly q r) :
    fsGet (applyRun fs r) q = some c :=
  foldl_inv (fun fs' => fsGet fs' q = some c) write r fs h fun fs' w hw h' => write_skip_kept fs' w q c h' (hs w hw)

/-- the user-editable configure file: once it exists, no sequence of runs that only write it with SkipExists changes
    it — only the user does -/
theorem configure_kept : ∀ (ops : List Op) (fs : FS) (q c : String), fsGet fs q = some c →
    (∀ op ∈ ops, match op with | .run r => skipsOnly q r | .user p _ => p ≠ q) → fsGet (exec fs ops) q = some c :=
  fun ops fs q c h hs => foldl_inv (fun fs' => fsGet fs' q = some c) step ops fs h fun fs' op hop h' => by
    have := hs op hop
    cases op with
    | run r => exact run_skip_kept r fs' q c h' this
    | user p c' => exact (fsGet_fsSet fs' p c' q).trans ((if_neg this).trans h')

/-- pairwise distinct paths inside one run (one template entry per file) -/
def distinctPaths : List W → Prop
  | [] => True
  | w :: ws => (∀ w' ∈ ws, w'.path ≠ w.path) ∧ distinctPaths ws

/-- after a run, every file it writes without skipping holds exactly the rendered content -/
theorem converges : ∀ (r : List W) (fs : FS), distinctPaths r → ∀ w ∈ r, ¬ (w.skip = true ∧ (fsGet fs w.path).isSome) →
    fsGet (applyRun fs r) w.path = some w.content := by
  intro r
  induction r with
  | nil => exact fun _ _ w h => nomatch h
  | cons x xs ih =>
    intro fs hd w hw hns
    show fsGet (applyRun (write fs x) xs) w.path = _
    rcases List.mem_cons.mp hw with e | hin
    · -- `w` is written now, and no later write of the run names its path
      rw [e, run_other xs _ _ fun w' hw' e => hd.1 w' hw' e.symm]
      unfold write
      rw [if_neg (by simpa [e] using hns), fsGet_fsSet, if_pos rfl]
    · exact ih (write fs x) hd.2 w hin (by rw [write_other fs x w.path (hd.1 w hin)]; exact hns)

/-- every file a run writes without skipping holds what a generation into an empty directory gives: the result does not
    depend on the prior state -/
theorem independent_of_prior_state (r : List W) (fs : FS) (hd : distinctPaths r) (w : W) (hw : w ∈ r)
    (hns : ¬ (w.skip = true ∧ (fsGet fs w.path).isSome)) :
    fsGet (applyRun fs r) w.path = fsGet (applyRun [] r) w.path := by
  rw [converges r fs hd w hw hns, converges r [] hd w hw fun h => Bool.false_ne_true h.2]   -- the empty directory holds no file

/- non-vacuity: a concrete history (generate, user edits configure and adds a file, regenerate) -/
def run1 : List W := [⟨"restapi/configure_x.go", "gen-v1", true⟩, ⟨"restapi/server.go", "srv-v1", false⟩]
def run2 : List W := [⟨"restapi/configure_x.go", "gen-v2", true⟩, ⟨"restapi/server.go", "srv-v2", false⟩]
def hist : List Op := [.run run1, .user "restapi/configure_x.go" "mine", .user "restapi/user.go" "u", .run run2]

example : fsGet (exec [] hist) "restapi/configure_x.go" = some "mine" ∧ fsGet (exec [] hist) "restapi/server.go" = some "srv-v2" ∧
          fsGet (exec [] hist) "restapi/user.go" = some "u" := by decide +kernel
example : distinctPaths run1 := by simp [distinctPaths, run1]

/-! ### layout facts regenerated from the live `GenOpts.Sections` -/

/-- with default options exactly the template entries named "configure" carry SkipExists -/
theorem only_configure_skips : ∀ e ∈ Gs.Gen.layoutDefault, (e.skip = true ↔ e.name = "configure") := by decide +kernel

theorem configure_present : ∃ e ∈ Gs.Gen.layoutDefault, e.name = "configure" ∧ e.skip = true := by decide +kernel

/-- `--regenerate-configureapi` clears the SkipExists flag everywhere (the switch reaches the section options) -/
theorem regenerate_clears_skip : ∀ e ∈ Gs.Gen.layoutRegenerate, e.skip = false := by decide

/-- a layout supplied through the documented config-file format (`-C`, keys `skip_exists` / `skip_format`) is read back
    exactly: the default layout written in that format and loaded again carries the same flags -/
theorem config_layout_roundtrip :
    Gs.Gen.layoutFromConfig.map (fun e => (e.name, e.skip)) = Gs.Gen.layoutDefault.map (fun e => (e.name, e.skip)) ∨
    (∀ e ∈ Gs.Gen.layoutDefault, ∃ e' ∈ Gs.Gen.layoutFromConfig, e'.name = e.name ∧ e'.fileName = e.fileName ∧ e'.skip = e.skip) := by
  decide +kernel

/-- with `--implementation-package` the generated (DO NOT EDIT) auto-configure file replaces the user-editable one and is
    never skipped: it must follow the spec on every run -/
theorem implementation_layout_never_skips :
    (∀ e ∈ Gs.Gen.layoutImplementation, e.skip = false) ∧ (∃ e ∈ Gs.Gen.layoutImplementation, e.name = "autoconfigure") ∧
    (∀ e ∈ Gs.Gen.layoutImplementation, e.name ≠ "configure") := by
  decide +kernel

/-- the contributed stratoscale templates own their configure file: the option plumbing must hand them a layout in which NO
    entry is skipped when it exists (regenerated fact: `--template stratoscale` through createSwagger) -/
theorem stratoscale_layout_never_skips :
    (∀ e ∈ Gs.Gen.layoutStratoscale, e.skip = false) ∧ (∃ e ∈ Gs.Gen.layoutStratoscale, e.name = "configure") := by
  decide +kernel

end Gs.Props.C11
