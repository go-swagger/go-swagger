import GsModel.Props.C15
import GsModel.Diff.Edits
/-
  C13 — diff never reports a request-breaking change as compatible.

  Proved about the model (tables REGENERATED from the live compatibility maps on every run):
  * `policy_sound_request`, `policy_sound_response`, `policy_sound_any` — every change code that stands for a narrowing in
    its context is classified Breaking by the policy tables (complete finite quantifier, `decide`): this is the
    obligation a flipped table entry breaks.
  * `compareProps_string`, `compareProps_numeric`, `compareProps_array` — what CompareProps returns on two primitives of the
    same type: exactly the string / numeric / item-count group (no earlier group can mask it).
  * `string_reported`, `numeric_reported` — on two strings / two numbers of one format CompareProps reports every code of
    every part of the group.  `detected_*` are the instances: for EVERY pair of bounds, lengths, item counts, patterns and
    enum lists, each narrowing kind the analyser can see yields a NarrowedType / AddedConstraint / ChangedType /
    DeletedEnumValue entry.
  * `breaking_exits_nonzero` — text mode exits non-zero as soon as one reported entry is Breaking.
  * `undetected_*` — the statement is FALSE of the code for multipleOf, uniqueItems, an enum that is introduced, non-string
    enums, every constraint below an array parameter's `items`, and allOf-only schemas: counterexample theorems, each a
    known finding that the check replays on the real analyser with a witness request.
  * `param_change_reported_breaking` — the LIFTING for parameters: if an endpoint and a parameter (by location and name,
    path-level or operation-level) exist in both documents and CompareProps finds on the parameter's own level a code of
    `requestNarrowing`, then EVERY report `Analyse` returns contains a Breaking entry, whatever else the documents contain,
    for every fuel and iteration order (the analyser only appends: `St.Le`; the loops reach every shared parameter:
    `foldlM_reach`).  `param_maxLength_lower_reported`, `param_maximum_lower_reported`: two instances end to end.
  * `removed_endpoint_reported_breaking`, `added_required_param_reported_breaking` — the same lifting for the two structural
    request-breaking edits: a live endpoint that disappears, a parameter that appears as required; `removed_response_reported_breaking`:
    a response code that disappears (the response side of the statement).
  * `body_root_change_reported_breaking`, `body_property_change_reported_breaking` — the lifting for the request body, at the
    root of an inline (`$ref`-free) schema and for a property both inline object bodies have.
    The lifting for body schemas below that, through `$ref` and allOf (through compareSchema, where the visited-key guard
    can skip a comparison), is decided by the catalogue sweep on the real analyser: partial.
  * `first_required_property_step`, `last_property_removed_step`, `compareProperties_guard` — an object that declares
    properties on ONE side only: the guard of CompareProperties returns early only when neither side declares any, and the
    steps that walk the new / the old side's properties append AddedRequiredProperty / DeletedProperty.
-/
namespace Gs.Props.C13
open Gs Gs.Gen Gs.Diff

/-! ### policy tables -/

def requestNarrowing : List Code :=
  [.NarrowedType, .ChangedType, .AddedConstraint, .DeletedEnumValue, .ChangedOptionalToRequired, .AddedRequiredParam,
   .AddedRequiredProperty, .ChangedCollectionFormat]
def responseBreaking : List Code :=
  [.DeletedProperty, .DeletedResponse, .DeletedResponseHeader, .AddedEnumValue, .ChangedType, .DeletedConstraint]
def anyContextBreaking : List Code := [.DeletedEndpoint, .DeletedConsumesFormat, .DeletedProducesFormat, .RefTargetChanged]

theorem policy_sound_request : ∀ c ∈ requestNarrowing, getCompatibilityForChange c false = Compat.Breaking := by decide
theorem policy_sound_response : ∀ c ∈ responseBreaking, getCompatibilityForChange c true = Compat.Breaking := by decide
theorem policy_sound_any : ∀ c ∈ anyContextBreaking, ∀ r : Bool, getCompatibilityForChange c r = Compat.Breaking := by decide

/-- what the policy deliberately leaves compatible in a request (widenings) — non-vacuity of the tables -/
example : getCompatibilityForChange .WidenedType false = Compat.NonBreaking ∧
          getCompatibilityForChange .NarrowedType true = Compat.NonBreaking := by decide

/-! ### CompareProps on two primitives of the same type -/

def changes (l : List TDiff) : List Code := l.map (·.change)

theorem wideness_string : wideness "string" = none := by decide +kernel
theorem wideness_integer : (wideness "integer").isSome = true ∧ (wideness "number").isSome = true := by decide +kernel

theorem compareProps_string (n : Nat) (t1 t2 : Schema) (h1 : t1.type = ["string"]) (h2 : t2.type = ["string"])
    (hf : t1.format = t2.format) (r1 : t1.ref = "") (r2 : t2.ref = "") :
    compareProps n t1 t2 = .ok (checkStringTypeChanges [] t1 t2) := by
  unfold compareProps
  simp [h1, h2, hf, r1, r2, isPrimitiveType, isArrayType, checkRefChangeProps, Outcome.bind, checkNumericTypeChanges,
    isNumeric, wideness_string]

theorem compareProps_numeric (n : Nat) (t1 t2 : Schema) (ty : String) (hty : ty = "integer" ∨ ty = "number")
    (h1 : t1.type = [ty]) (h2 : t2.type = [ty]) (hf : t1.format = t2.format) (r1 : t1.ref = "") (r2 : t2.ref = "") :
    compareProps n t1 t2 = .ok (checkNumericTypeChanges [] t1 t2) := by
  unfold compareProps
  rcases hty with rfl | rfl <;>
    simp [h1, h2, hf, r1, r2, isPrimitiveType, isArrayType, checkRefChangeProps, Outcome.bind, checkStringTypeChanges]

/-- CompareProps on two strings of one format reports every code of every part of the string group -/
theorem string_reported (n : Nat) (t1 t2 : Schema) (h1 : t1.type = ["string"]) (h2 : t2.type = ["string"])
    (hf : t1.format = t2.format) (r1 : t1.ref = "") (r2 : t2.ref = "") (c : Code)
    (hc : c ∈ changes (compareIntValues t1.v.minLength t2.v.minLength .NarrowedType .WidenedType) ∨
          c ∈ changes (compareIntValues t1.v.maxLength t2.v.maxLength .WidenedType .NarrowedType) ∨
          t1.v.pattern ≠ t2.v.pattern ∧ c = .ChangedType ∨
          t1.v.enum.length > 0 ∧ c ∈ changes (compareEnums t1.v.enum t2.v.enum)) :
    ∃ ds, compareProps n t1 t2 = .ok ds ∧ c ∈ changes ds := by
  refine ⟨_, compareProps_string n t1 t2 h1 h2 hf r1 r2, ?_⟩
  rw [changes, checkString_codes, if_pos ⟨by rw [h1]; rfl, by rw [h2]; rfl⟩]
  simp only [List.mem_append]
  rcases hc with h | h | ⟨hp, rfl⟩ | ⟨he, h⟩
  · exact .inl (.inl (.inl h))
  · exact .inl (.inl (.inr h))
  · exact .inl (.inr (by rw [if_pos hp]; exact List.mem_singleton_self _))
  · exact .inr (by rw [if_pos he]; exact h)

/-- CompareProps on two integers / two numbers of one format reports a change of an exclusive flag and, when no such
    flag changes, every code of the two bound comparisons -/
theorem numeric_reported (n : Nat) (t1 t2 : Schema) (ty : String) (hty : ty = "integer" ∨ ty = "number")
    (h1 : t1.type = [ty]) (h2 : t2.type = [ty]) (hf : t1.format = t2.format) (r1 : t1.ref = "") (r2 : t2.ref = "") (c : Code)
    (hc : c ∈ exclCodes t1.v.exclMax t2.v.exclMax ∨ c ∈ exclCodes t1.v.exclMin t2.v.exclMin ∨
          t1.v.exclMax = t2.v.exclMax ∧ t1.v.exclMin = t2.v.exclMin ∧
            (c ∈ changes (compareIntValues t1.v.maximum t2.v.maximum .WidenedType .NarrowedType) ∨
             c ∈ changes (compareIntValues t1.v.minimum t2.v.minimum .NarrowedType .WidenedType))) :
    ∃ ds, compareProps n t1 t2 = .ok ds ∧ c ∈ changes ds := by
  refine ⟨_, compareProps_numeric n t1 t2 ty hty h1 h2 hf r1 r2, ?_⟩
  have hn : isNumeric [ty] = true := by
    rcases hty with rfl | rfl
    · exact wideness_integer.1
    · exact wideness_integer.2
  rw [changes, checkNumeric_codes, h1, h2, if_pos ⟨hn, hn⟩]
  simp only [List.mem_append]
  rcases hc with h | h | ⟨hx, hm, h⟩
  · exact .inl (.inl h)
  · exact .inl (.inr h)
  · exact .inr (by rw [if_pos ⟨hx, hm⟩, List.map_append]; exact List.mem_append.mpr h)

/-! ### detected narrowings (for all values) -/

theorem cmp_less {v1 v2 : Option Int} {a b : Int} {g l : Code} (ha : v1 = some a) (hb : v2 = some b) (h : b < a) :
    l ∈ changes (compareIntValues v1 v2 g l) := by
  rw [ha, hb, compareIntValues_gt h]; exact List.mem_singleton_self _

theorem cmp_greater {v1 v2 : Option Int} {a b : Int} {g l : Code} (ha : v1 = some a) (hb : v2 = some b) (h : a < b) :
    g ∈ changes (compareIntValues v1 v2 g l) := by
  rw [ha, hb, compareIntValues_lt h]; exact List.mem_singleton_self _

theorem cmp_introduce {v1 v2 : Option Int} {b : Int} {g l : Code} (ha : v1 = none) (hb : v2 = some b) :
    Code.AddedConstraint ∈ changes (compareIntValues v1 v2 g l) := by
  rw [ha, hb]; exact List.mem_singleton_self _

theorem detected_maxLength_lower (n : Nat) (t1 t2 : Schema) (a b : Int) (h1 : t1.type = ["string"]) (h2 : t2.type = ["string"])
    (hf : t1.format = t2.format) (r1 : t1.ref = "") (r2 : t2.ref = "")
    (ha : t1.v.maxLength = some a) (hb : t2.v.maxLength = some b) (h : b < a) :
    ∃ ds, compareProps n t1 t2 = .ok ds ∧ Code.NarrowedType ∈ changes ds :=
  string_reported n t1 t2 h1 h2 hf r1 r2 _ (.inr (.inl (cmp_less ha hb h)))

theorem detected_maxLength_introduce (n : Nat) (t1 t2 : Schema) (b : Int) (h1 : t1.type = ["string"]) (h2 : t2.type = ["string"])
    (hf : t1.format = t2.format) (r1 : t1.ref = "") (r2 : t2.ref = "")
    (ha : t1.v.maxLength = none) (hb : t2.v.maxLength = some b) :
    ∃ ds, compareProps n t1 t2 = .ok ds ∧ Code.AddedConstraint ∈ changes ds :=
  string_reported n t1 t2 h1 h2 hf r1 r2 _ (.inr (.inl (cmp_introduce ha hb)))

theorem detected_minLength_raise (n : Nat) (t1 t2 : Schema) (a b : Int) (h1 : t1.type = ["string"]) (h2 : t2.type = ["string"])
    (hf : t1.format = t2.format) (r1 : t1.ref = "") (r2 : t2.ref = "")
    (ha : t1.v.minLength = some a) (hb : t2.v.minLength = some b) (h : a < b) :
    ∃ ds, compareProps n t1 t2 = .ok ds ∧ Code.NarrowedType ∈ changes ds :=
  string_reported n t1 t2 h1 h2 hf r1 r2 _ (.inl (cmp_greater ha hb h))

theorem detected_minLength_introduce (n : Nat) (t1 t2 : Schema) (b : Int) (h1 : t1.type = ["string"]) (h2 : t2.type = ["string"])
    (hf : t1.format = t2.format) (r1 : t1.ref = "") (r2 : t2.ref = "")
    (ha : t1.v.minLength = none) (hb : t2.v.minLength = some b) :
    ∃ ds, compareProps n t1 t2 = .ok ds ∧ Code.AddedConstraint ∈ changes ds :=
  string_reported n t1 t2 h1 h2 hf r1 r2 _ (.inl (cmp_introduce ha hb))

theorem detected_pattern_change (n : Nat) (t1 t2 : Schema) (h1 : t1.type = ["string"]) (h2 : t2.type = ["string"])
    (hf : t1.format = t2.format) (r1 : t1.ref = "") (r2 : t2.ref = "") (hp : t1.v.pattern ≠ t2.v.pattern) :
    ∃ ds, compareProps n t1 t2 = .ok ds ∧ Code.ChangedType ∈ changes ds :=
  string_reported n t1 t2 h1 h2 hf r1 r2 _ (.inr (.inr (.inl ⟨hp, rfl⟩)))

theorem compareEnums_deleted (e1 e2 : List JVal) (x : JVal) (hx : x ∈ e1) (hnx : x.shown ∉ e2.map (·.shown)) :
    Code.DeletedEnumValue ∈ changes (compareEnums e1 e2) := by
  have hmem := (mem_diffsTo_deleted _ _ _).mpr ⟨List.mem_map_of_mem hx, hnx⟩
  unfold compareEnums
  rw [changes, List.map_append]
  refine List.mem_append_right _ ?_
  rw [if_neg (by rw [List.isEmpty_iff]; exact List.ne_nil_of_mem hmem)]
  exact List.mem_singleton_self _

/-- a value dropped from a non-empty string enum is reported as DeletedEnumValue -/
theorem detected_enum_shrink (n : Nat) (t1 t2 : Schema) (h1 : t1.type = ["string"]) (h2 : t2.type = ["string"])
    (hf : t1.format = t2.format) (r1 : t1.ref = "") (r2 : t2.ref = "")
    (x : JVal) (hx : x ∈ t1.v.enum) (hnx : x.shown ∉ t2.v.enum.map (·.shown)) :
    ∃ ds, compareProps n t1 t2 = .ok ds ∧ Code.DeletedEnumValue ∈ changes ds :=
  string_reported n t1 t2 h1 h2 hf r1 r2 _
    (.inr (.inr (.inr ⟨List.length_pos_of_mem hx, compareEnums_deleted _ _ x hx hnx⟩)))

theorem detected_maximum_lower (n : Nat) (t1 t2 : Schema) (ty : String) (hty : ty = "integer" ∨ ty = "number") (a b : Int)
    (h1 : t1.type = [ty]) (h2 : t2.type = [ty]) (hf : t1.format = t2.format) (r1 : t1.ref = "") (r2 : t2.ref = "")
    (hx : t1.v.exclMax = t2.v.exclMax) (hn : t1.v.exclMin = t2.v.exclMin)
    (ha : t1.v.maximum = some a) (hb : t2.v.maximum = some b) (h : b < a) :
    ∃ ds, compareProps n t1 t2 = .ok ds ∧ Code.NarrowedType ∈ changes ds :=
  numeric_reported n t1 t2 ty hty h1 h2 hf r1 r2 _
    (.inr (.inr ⟨hx, hn, .inl (cmp_less ha hb h)⟩))

theorem detected_minimum_raise (n : Nat) (t1 t2 : Schema) (ty : String) (hty : ty = "integer" ∨ ty = "number") (a b : Int)
    (h1 : t1.type = [ty]) (h2 : t2.type = [ty]) (hf : t1.format = t2.format) (r1 : t1.ref = "") (r2 : t2.ref = "")
    (hx : t1.v.exclMax = t2.v.exclMax) (hn : t1.v.exclMin = t2.v.exclMin)
    (ha : t1.v.minimum = some a) (hb : t2.v.minimum = some b) (h : a < b) :
    ∃ ds, compareProps n t1 t2 = .ok ds ∧ Code.NarrowedType ∈ changes ds :=
  numeric_reported n t1 t2 ty hty h1 h2 hf r1 r2 _
    (.inr (.inr ⟨hx, hn, .inr (cmp_greater ha hb h)⟩))

theorem detected_bound_introduce (n : Nat) (t1 t2 : Schema) (ty : String) (hty : ty = "integer" ∨ ty = "number") (b : Int)
    (h1 : t1.type = [ty]) (h2 : t2.type = [ty]) (hf : t1.format = t2.format) (r1 : t1.ref = "") (r2 : t2.ref = "")
    (hx : t1.v.exclMax = t2.v.exclMax) (hn : t1.v.exclMin = t2.v.exclMin)
    (hb : (t1.v.maximum = none ∧ t2.v.maximum = some b) ∨ (t1.v.minimum = none ∧ t2.v.minimum = some b)) :
    ∃ ds, compareProps n t1 t2 = .ok ds ∧ Code.AddedConstraint ∈ changes ds :=
  numeric_reported n t1 t2 ty hty h1 h2 hf r1 r2 _ (.inr (.inr ⟨hx, hn, hb.imp
    (fun ⟨ha, hb⟩ => cmp_introduce ha hb) (fun ⟨ha, hb⟩ => cmp_introduce ha hb)⟩))

theorem detected_exclusive_set (n : Nat) (t1 t2 : Schema) (ty : String) (hty : ty = "integer" ∨ ty = "number")
    (h1 : t1.type = [ty]) (h2 : t2.type = [ty]) (hf : t1.format = t2.format) (r1 : t1.ref = "") (r2 : t2.ref = "")
    (hx : (t1.v.exclMax = false ∧ t2.v.exclMax = true) ∨ (t1.v.exclMin = false ∧ t2.v.exclMin = true)) :
    ∃ ds, compareProps n t1 t2 = .ok ds ∧ Code.NarrowedType ∈ changes ds :=
  numeric_reported n t1 t2 ty hty h1 h2 hf r1 r2 _ (hx.elim
    (fun ⟨a, b⟩ => .inl (by rw [a, b]; exact List.mem_singleton_self _))
    (fun ⟨a, b⟩ => .inr (.inl (by rw [a, b]; exact List.mem_singleton_self _))))

/-- CompareProps on two arrays: the item-count group, returned as soon as it is non-empty -/
theorem compareProps_array (n : Nat) (t1 t2 : Schema) (h1 : t1.type = ["array"]) (h2 : t2.type = ["array"])
    (hne : (compareIntValues t1.v.maxItems t2.v.maxItems .WidenedType .NarrowedType ++
            compareIntValues t1.v.minItems t2.v.minItems .NarrowedType .WidenedType) ≠ []) :
    compareProps n t1 t2 = .ok (compareIntValues t1.v.maxItems t2.v.maxItems .WidenedType .NarrowedType ++
                                compareIntValues t1.v.minItems t2.v.minItems .NarrowedType .WidenedType) := by
  unfold compareProps
  simp only [h1, h2, isPrimitiveType, isArrayType, decide_true, ne_eq, not_true_eq_false, if_false, if_true,
    Bool.not_eq_true', List.isEmpty_eq_false_iff, if_pos hne]

theorem detected_items_bounds (n : Nat) (t1 t2 : Schema) (h1 : t1.type = ["array"]) (a b : Int)
    (hb : (t1.v.maxItems = some a ∧ t2.v.maxItems = some b ∧ b < a) ∨ (t1.v.minItems = some a ∧ t2.v.minItems = some b ∧ a < b))
    (h2 : t2.type = ["array"]) :
    ∃ ds, compareProps n t1 t2 = .ok ds ∧ Code.NarrowedType ∈ changes ds := by
  have hmem : Code.NarrowedType ∈ changes (compareIntValues t1.v.maxItems t2.v.maxItems .WidenedType .NarrowedType ++
            compareIntValues t1.v.minItems t2.v.minItems .NarrowedType .WidenedType) := by
    rw [changes, List.map_append]
    rcases hb with ⟨ha, hb, h⟩ | ⟨ha, hb, h⟩
    · exact List.mem_append_left _ (cmp_less ha hb h)
    · exact List.mem_append_right _ (cmp_greater ha hb h)
  obtain ⟨td, htd, -⟩ := List.mem_map.mp hmem
  exact ⟨_, compareProps_array n t1 t2 h1 h2 (List.ne_nil_of_mem htd), hmem⟩

/-- non-vacuity: concrete instances of the hypotheses above -/
example : ∃ ds, compareProps 3 { type := ["string"], v := { maxLength := some 10 } } { type := ["string"], v := { maxLength := some 5 } } = .ok ds ∧
    Code.NarrowedType ∈ changes ds :=
  detected_maxLength_lower 3 _ _ 10 5 rfl rfl rfl rfl rfl rfl rfl (by decide)

/-- a type narrowing between primitives (string → integer, number → integer) -/
theorem detected_type_narrowing :
    (∃ ds, compareProps 3 { type := ["string"] } { type := ["integer"] } = .ok ds ∧ Code.NarrowedType ∈ changes ds) ∧
    (∃ ds, compareProps 3 { type := ["number"] } { type := ["integer"] } = .ok ds ∧ Code.NarrowedType ∈ changes ds) ∧
    (∃ ds, compareProps 3 { type := ["string"] } { type := ["string"], format := "date" } = .ok ds ∧ Code.NarrowedType ∈ changes ds) := by
  refine ⟨⟨_, rfl, by decide⟩, ⟨_, rfl, by decide⟩, ⟨_, rfl, by decide⟩⟩

/-! ### lifting to the report: parameters -/

theorem narrowing_is_a_change : ∀ c ∈ requestNarrowing, c ≠ Code.NoChangeDetected := by decide

/-- a request-narrowing code among the codes a comparison returns is an entry the analyser adds and classifies Breaking -/
theorem narrowing_entry {c : Code} (hc : c ∈ requestNarrowing) {x : Outcome (List TDiff)}
    (hdet : ∃ ds, x = .ok ds ∧ c ∈ changes ds) :
    ∃ ds, x = .ok ds ∧ ∃ td ∈ ds, td.change ≠ Code.NoChangeDetected ∧
      getCompatibilityForChange td.change false = Compat.Breaking := by
  obtain ⟨ds, hx, hmem⟩ := hdet
  obtain ⟨td, htd, rfl⟩ := List.mem_map.mp hmem
  exact ⟨ds, hx, td, htd, narrowing_is_a_change _ hc, policy_sound_request _ hc⟩

theorem param_change_reported_breaking (fl : Flags) (n : Nat) (a b : Spec) (pl : String) (hpl : pl ∈ paramLocations)
    (um1 um2 : UM) (hum2 : um2 ∈ getURLMethodsFor b) (hf : findUM (getURLMethodsFor a) um2.url um2.method = some um1)
    (name : String) (p1 p2 : Param)
    (h1 : lookup (getParams um1.item.params um1.op.params pl) name = some p1)
    (h2 : (name, p2) ∈ getParams um2.item.params um2.op.params pl)
    (c : Code) (hc : c ∈ requestNarrowing)
    (hdet : ∃ ds, compareProps n (forChain p1.chain) (forChain p2.chain) = .ok ds ∧ c ∈ changes ds) :
    Outcome.Holds (fun ds => ∃ d ∈ ds, d.compat = Compat.Breaking) (analyse fl n a b) := by
  obtain ⟨ds, hcmp, td, htd, hne, hbr⟩ := narrowing_entry hc hdet
  exact analyse_has_param_change fl n a b pl hpl ⟨hum2, hf⟩ name p1 p2 h1 h2 ds hcmp td htd hne (fun _ _ _ => hbr)

theorem forChain_type (s : Simple) (r : List Simple) : (forChain (s :: r)).type = [s.type] ∧ (forChain (s :: r)).format = s.format ∧
    (forChain (s :: r)).ref = "" ∧ (forChain (s :: r)).v = s.v := ⟨rfl, rfl, rfl, rfl⟩

/-- end to end: a string parameter whose maxLength is lowered -/
theorem param_maxLength_lower_reported (fl : Flags) (n : Nat) (a b : Spec) (pl : String) (hpl : pl ∈ paramLocations)
    (um1 um2 : UM) (hum2 : um2 ∈ getURLMethodsFor b) (hf : findUM (getURLMethodsFor a) um2.url um2.method = some um1)
    (name : String) (p1 p2 : Param)
    (h1 : lookup (getParams um1.item.params um1.op.params pl) name = some p1)
    (h2 : (name, p2) ∈ getParams um2.item.params um2.op.params pl)
    (s1 s2 : Simple) (r1 r2 : List Simple) (c1 : p1.chain = s1 :: r1) (c2 : p2.chain = s2 :: r2)
    (t1 : s1.type = "string") (t2 : s2.type = "string") (hfm : s1.format = s2.format)
    (x y : Int) (hx : s1.v.maxLength = some x) (hy : s2.v.maxLength = some y) (hlt : y < x) :
    Outcome.Holds (fun ds => ∃ d ∈ ds, d.compat = Compat.Breaking) (analyse fl n a b) := by
  refine param_change_reported_breaking fl n a b pl hpl um1 um2 hum2 hf name p1 p2 h1 h2 Code.NarrowedType (by decide) ?_
  rw [c1, c2]
  exact detected_maxLength_lower n _ _ x y (congrArg (· :: []) t1) (congrArg (· :: []) t2) hfm rfl rfl hx hy hlt

/-- end to end: an integer / number parameter whose maximum is lowered -/
theorem param_maximum_lower_reported (fl : Flags) (n : Nat) (a b : Spec) (pl : String) (hpl : pl ∈ paramLocations)
    (um1 um2 : UM) (hum2 : um2 ∈ getURLMethodsFor b) (hf : findUM (getURLMethodsFor a) um2.url um2.method = some um1)
    (name : String) (p1 p2 : Param)
    (h1 : lookup (getParams um1.item.params um1.op.params pl) name = some p1)
    (h2 : (name, p2) ∈ getParams um2.item.params um2.op.params pl)
    (s1 s2 : Simple) (r1 r2 : List Simple) (c1 : p1.chain = s1 :: r1) (c2 : p2.chain = s2 :: r2)
    (ty : String) (hty : ty = "integer" ∨ ty = "number") (t1 : s1.type = ty) (t2 : s2.type = ty) (hfm : s1.format = s2.format)
    (e1 : s1.v.exclMax = s2.v.exclMax) (e2 : s1.v.exclMin = s2.v.exclMin)
    (x y : Int) (hx : s1.v.maximum = some x) (hy : s2.v.maximum = some y) (hlt : y < x) :
    Outcome.Holds (fun ds => ∃ d ∈ ds, d.compat = Compat.Breaking) (analyse fl n a b) := by
  refine param_change_reported_breaking fl n a b pl hpl um1 um2 hum2 hf name p1 p2 h1 h2 Code.NarrowedType (by decide) ?_
  rw [c1, c2]
  exact detected_maximum_lower n _ _ ty hty x y (congrArg (· :: []) t1) (congrArg (· :: []) t2) hfm rfl rfl e1 e2 hx hy hlt

/-- an endpoint of the old document that is not deprecated and that the new document lacks: every report has a Breaking entry -/
theorem removed_endpoint_reported_breaking (fl : Flags) (n : Nat) (a b : Spec) (um1 : UM) (h1 : um1 ∈ getURLMethodsFor a)
    (hgone : findUM (getURLMethodsFor b) um1.url um1.method = none)
    (hlive : um1.item.optionsDeprecated = false ∧ um1.op.deprecated = false) :
    Outcome.Holds (fun ds => ∃ d ∈ ds, d.compat = Compat.Breaking) (analyse fl n a b) :=
  analyse_has_deleted_endpoint fl n a b um1 h1 hgone hlive
    (by decide : getCompatibilityForChange Code.DeletedEndpoint false = Compat.Breaking)

/-- a parameter the old endpoint does not have and the new one requires: every report has a Breaking entry -/
theorem added_required_param_reported_breaking (fl : Flags) (n : Nat) (a b : Spec) (pl : String) (hpl : pl ∈ paramLocations)
    (um1 um2 : UM) (hum2 : um2 ∈ getURLMethodsFor b) (hf : findUM (getURLMethodsFor a) um2.url um2.method = some um1)
    (name : String) (p2 : Param)
    (h1 : lookup (getParams um1.item.params um1.op.params pl) name = none)
    (h2 : (name, p2) ∈ getParams um2.item.params um2.op.params pl) (hreq : p2.required = true) :
    Outcome.Holds (fun ds => ∃ d ∈ ds, d.compat = Compat.Breaking) (analyse fl n a b) :=
  analyse_has_added_param fl n a b pl hpl ⟨hum2, hf⟩ name p2 h1 h2 (fun l hl => by
    simp only [addedCode, hreq, if_true, hl, gt_iff_lt, Nat.lt_irrefl, decide_false]
    decide)

/- non-vacuity: two concrete documents meet every hypothesis of `param_maxLength_lower_reported` -/
def paramLen (m : Int) : Param := { name := "q", loc := "query", chain := [{ type := "string", v := { maxLength := some m } }] }
def opLen (m : Int) : Operation := { method := "get", params := [paramLen m], responses := [{ code := 200, desc := "ok" }] }
def pathLen (m : Int) : PathItem := { url := "/a", ops := [opLen m] }
def specLen (m : Int) : Spec := { paths := [pathLen m] }
def umLen (m : Int) : UM := { url := "/a", method := "get", item := pathLen m, op := opLen m }

example : Outcome.Holds (fun ds => ∃ d ∈ ds, d.compat = Compat.Breaking) (analyse {} 5 (specLen 10) (specLen 5)) :=
  param_maxLength_lower_reported {} 5 (specLen 10) (specLen 5) "query" (by decide) (umLen 10) (umLen 5)
    (List.mem_singleton_self _) rfl "q" (paramLen 10) (paramLen 5) rfl
    (List.mem_singleton_self _)
    _ _ [] [] rfl rfl rfl rfl rfl 10 5 rfl rfl (by decide)
example : (analyse {} 5 (specLen 10) (specLen 5)).isOk = true := by decide +kernel

/-- the request BODY, at the root of an inline (`$ref`-free) schema: a narrowing code found by CompareProps is a Breaking entry
    of every report -/
theorem body_root_change_reported_breaking (fl : Flags) (n : Nat) (a b : Spec) (pl : String) (hpl : pl ∈ paramLocations)
    (um1 um2 : UM) (hum2 : um2 ∈ getURLMethodsFor b) (hf : findUM (getURLMethodsFor a) um2.url um2.method = some um1)
    (name : String) (p1 p2 : Param)
    (hp1 : lookup (getParams um1.item.params um1.op.params pl) name = some p1)
    (hp2 : (name, p2) ∈ getParams um2.item.params um2.op.params pl)
    (sc1 sc2 : Schema) (e1 : p1.schema = some sc1) (e2 : p2.schema = some sc2) (r1 : sc1.ref = "") (r2 : sc2.ref = "")
    (c : Code) (hc : c ∈ requestNarrowing) (hdet : ∃ ds, compareProps n sc1 sc2 = .ok ds ∧ c ∈ changes ds) :
    Outcome.Holds (fun ds => ∃ d ∈ ds, d.compat = Compat.Breaking) (analyse fl (n+1) a b) := by
  obtain ⟨ds, hcmp, td, htd, hne, hbr⟩ := narrowing_entry hc hdet
  refine analyse_has_body_change fl (n+1) a b pl hpl ⟨hum2, hf⟩ name p1 p2 hp1 hp2 sc1 sc2 e1 e2 ?_
  intro cl st' hcl
  exact compareSchema_hits_root _ n cl hcl sc1 sc2 st' r1 r2 ds hcmp td htd hne (fun _ _ _ => hbr)

/-- … and one level down: a property that both inline object bodies have -/
theorem body_property_change_reported_breaking (fl : Flags) (n : Nat) (a b : Spec) (pl : String) (hpl : pl ∈ paramLocations)
    (um1 um2 : UM) (hum2 : um2 ∈ getURLMethodsFor b) (hf : findUM (getURLMethodsFor a) um2.url um2.method = some um1)
    (name : String) (p1 p2 : Param)
    (hp1 : lookup (getParams um1.item.params um1.op.params pl) name = some p1)
    (hp2 : (name, p2) ∈ getParams um2.item.params um2.op.params pl)
    (sc1 sc2 : Schema) (e1 : p1.schema = some sc1) (e2 : p2.schema = some sc2)
    (o1 : PlainObject sc1) (o2 : PlainObject sc2) (hroot : compareProps (n+1) sc1 sc2 = .ok [])
    (prop : String) (q1 q2 : Schema) (m1 : (prop, q1) ∈ sc1.props) (m2 : (prop, q2) ∈ sc2.props)
    (u1 : ∀ y ∈ sc1.props, y.1 = prop → y = (prop, q1)) (u2 : ∀ y ∈ sc2.props, y.1 = prop → y = (prop, q2))
    (r1 : q1.ref = "") (r2 : q2.ref = "")
    (c : Code) (hc : c ∈ requestNarrowing) (hdet : ∃ ds, compareProps n q1 q2 = .ok ds ∧ c ∈ changes ds) :
    Outcome.Holds (fun ds => ∃ d ∈ ds, d.compat = Compat.Breaking) (analyse fl (n+2) a b) := by
  obtain ⟨ds, hcmp, td, htd, hne, hbr⟩ := narrowing_entry hc hdet
  refine analyse_has_body_change fl (n+2) a b pl hpl ⟨hum2, hf⟩ name p1 p2 hp1 hp2 sc1 sc2 e1 e2 ?_
  intro cl st' hcl
  exact compareSchema_hits_property _ n cl hcl sc1 sc2 st' o1 o2 hroot prop q1 q2 m1 m2 u1 u2 r1 r2 ds hcmp td htd hne (fun _ _ _ => hbr)

/- non-vacuity: a body object whose property `name` loses maximum length -/
def bodyObj (m : Int) : Schema :=
  { type := ["object"], hasProps := true, props := [("name", { type := ["string"], v := { maxLength := some m } }), ("n", { type := ["integer"] })] }
def paramBody (m : Int) : Param := { name := "body", loc := "body", chain := [{}], schema := some (bodyObj m) }
def opBody (m : Int) : Operation := { method := "post", params := [paramBody m], responses := [{ code := 200, desc := "ok" }] }
def specBody (m : Int) : Spec := { paths := [{ url := "/a", ops := [opBody m] }] }
def umBody (m : Int) : UM := { url := "/a", method := "post", item := { url := "/a", ops := [opBody m] }, op := opBody m }

theorem bodyObj_name (m : Int) :
    ∀ y ∈ (bodyObj m).props, y.1 = "name" → y = ("name", { type := ["string"], v := { maxLength := some m } }) :=
  List.forall_mem_cons.mpr ⟨fun _ => rfl, List.forall_mem_cons.mpr ⟨fun e => absurd e (by decide), nofun⟩⟩

example : Outcome.Holds (fun ds => ∃ d ∈ ds, d.compat = Compat.Breaking) (analyse {} 5 (specBody 10) (specBody 5)) :=
  body_property_change_reported_breaking {} 3 (specBody 10) (specBody 5) "body" (by decide) (umBody 10) (umBody 5)
    (List.mem_singleton_self _) rfl "body" (paramBody 10) (paramBody 5) rfl
    (List.mem_singleton_self _)
    (bodyObj 10) (bodyObj 5) rfl rfl ⟨rfl, rfl, rfl, by decide⟩ ⟨rfl, rfl, rfl, by decide⟩ rfl
    "name" _ _ (List.mem_cons_self) (List.mem_cons_self)
    (bodyObj_name 10) (bodyObj_name 5)
    rfl rfl Code.NarrowedType (by decide)
    (detected_maxLength_lower 3 _ _ 10 5 rfl rfl rfl rfl rfl rfl rfl (by decide))
example : (analyse {} 5 (specBody 10) (specBody 5)).isOk = true := by decide +kernel

/-- a response code of an endpoint both documents have that the new document lacks: every report has a Breaking entry -/
theorem removed_response_reported_breaking (fl : Flags) (n : Nat) (a b : Spec) (um1 um2 : UM) (hum2 : um2 ∈ getURLMethodsFor b)
    (hf : findUM (getURLMethodsFor a) um2.url um2.method = some um1) (resp1 : Response) (hr1 : resp1 ∈ um1.op.responses)
    (hgone : findResp um2.op.responses resp1.code = none) (hpos : resp1.code > 0) :
    Outcome.Holds (fun ds => ∃ d ∈ ds, d.compat = Compat.Breaking) (analyse fl n a b) :=
  analyse_has_deleted_response fl n a b ⟨hum2, hf⟩ resp1 hr1 hgone (fun l hl => by
    simp only [hl, gt_iff_lt, hpos, decide_true]
    decide)

def opCodes (cs : List Nat) : Operation := { method := "get", responses := cs.map (fun c => { code := c, desc := "ok" }) }
def specCodes (cs : List Nat) : Spec := { paths := [{ url := "/a", ops := [opCodes cs] }] }
def umCodes (cs : List Nat) : UM := { url := "/a", method := "get", item := { url := "/a", ops := [opCodes cs] }, op := opCodes cs }

example : Outcome.Holds (fun ds => ∃ d ∈ ds, d.compat = Compat.Breaking) (analyse {} 5 (specCodes [200, 404]) (specCodes [200])) :=
  removed_response_reported_breaking {} 5 (specCodes [200, 404]) (specCodes [200]) (umCodes [200, 404]) (umCodes [200])
    (List.mem_singleton_self _) rfl { code := 404, desc := "ok" }
    (List.mem_cons_of_mem _ (List.mem_singleton_self _)) rfl (by decide)
example : (analyse {} 5 (specCodes [200, 404]) (specCodes [200])).isOk = true := by decide

/- non-vacuity of the two structural liftings: an endpoint removed, a required parameter added -/
def specNone : Spec := { paths := [] }
def opBare : Operation := { method := "get", responses := [{ code := 200, desc := "ok" }] }
def specBare : Spec := { paths := [{ url := "/a", ops := [opBare] }] }
def paramReq : Param := { name := "q", loc := "query", required := true, chain := [{ type := "string" }] }
def opReq : Operation := { method := "get", params := [paramReq], responses := [{ code := 200, desc := "ok" }] }
def specReq : Spec := { paths := [{ url := "/a", ops := [opReq] }] }

example : Outcome.Holds (fun ds => ∃ d ∈ ds, d.compat = Compat.Breaking) (analyse {} 5 (specLen 10) specNone) :=
  removed_endpoint_reported_breaking {} 5 (specLen 10) specNone (umLen 10) (List.mem_singleton_self _) rfl ⟨rfl, rfl⟩
example : (analyse {} 5 (specLen 10) specNone).isOk = true := by decide

example : Outcome.Holds (fun ds => ∃ d ∈ ds, d.compat = Compat.Breaking) (analyse {} 5 specBare specReq) :=
  added_required_param_reported_breaking {} 5 specBare specReq "query" (by decide) _ _
    (List.mem_singleton_self _) rfl "q" paramReq rfl (List.mem_singleton_self _) rfl
example : (analyse {} 5 specBare specReq).isOk = true := by decide +kernel

/-! ### exit status -/

theorem breaking_exits_nonzero (ds : List Diff) (hc : ∀ d ∈ ds, C15.Canonical d) (d : Diff) (hd : d ∈ ds)
    (hb : d.compat = Compat.Breaking) : (execute false false ds []).2 = true ∧ (execute false true ds []).2 = true := by
  have hm : d ∈ filterIgnores ds [] := (C15.ignore_mem ds [] hc d).mpr ⟨hd, List.not_mem_nil⟩
  have hpos : breakingCount (filterIgnores ds []) > 0 :=
    List.length_pos_of_mem (List.mem_filter.mpr ⟨hm, decide_eq_true hb⟩)
  exact ⟨(C15.exit_iff_text false ds []).mpr hpos, (C15.exit_iff_text true ds []).mpr hpos⟩

/-! ### the statement is false of the code: narrowings the analyser does not see (known findings) -/

def intS (v : Valids) : Schema := { type := ["integer"], v := v }
def strS (v : Valids) : Schema := { type := ["string"], v := v }
def jvs (s : String) : JVal := { kind := 3, canon := "\"" ++ s ++ "\"", shown := s }
def jvi (s : String) : JVal := { kind := 2, canon := s, shown := s }

/-- multipleOf is never read -/
theorem undetected_multipleOf (n : Nat) (a b : Option Int) :
    compareProps n (intS { multipleOf := a }) (intS { multipleOf := b }) = .ok [] := by
  refine (compareProps_numeric n _ _ "integer" (.inl rfl) ?_ ?_ ?_ ?_ ?_).trans ?_ <;> rfl

/-- uniqueItems is never read -/
theorem undetected_uniqueItems (n : Nat) :
    compareProps n { type := ["array"], v := { uniqueItems := false } } { type := ["array"], v := { uniqueItems := true } } = .ok [] := by
  rfl

/-- an enum that is introduced (old enum empty) is not compared -/
theorem undetected_enum_introduce (n : Nat) : compareProps n (strS {}) (strS { enum := [jvs "a", jvs "b"] }) = .ok [] := by
  refine (compareProps_string n _ _ ?_ ?_ ?_ ?_ ?_).trans ?_ <;> rfl

/-- enums of non-string types are not compared -/
theorem undetected_int_enum_shrink (n : Nat) :
    compareProps n (intS { enum := [jvi "1", jvi "2", jvi "3"] }) (intS { enum := [jvi "1", jvi "2"] }) = .ok [] := by
  refine (compareProps_numeric n _ _ "integer" (.inl rfl) ?_ ?_ ?_ ?_ ?_).trans ?_ <;> rfl

/-- nothing below an array parameter's `items` is compared: CompareProps returns at the array level -/
theorem undetected_param_items (n : Nat) (i1 i2 : Simple) :
    compareProps n (forChain [{ type := "array" }, i1]) (forChain [{ type := "array" }, i2]) = .ok [] := by
  unfold compareProps
  simp [forChain, isPrimitiveType, isArrayType, checkRefChangeProps, Outcome.bind, compareIntValues]

/-- the guard of CompareProperties: when BOTH sides declare no properties it returns at once -/
theorem compareProperties_guard (cx : Ctx) (cmp : Cmp) (n : Nat) (loc : Loc) (t1 t2 : Schema) (st : St)
    (h : t1.hasProps = false ∧ t2.hasProps = false) : compareProperties cx cmp n loc t1 t2 st = .ok st := by
  unfold compareProperties
  simp [h.1, h.2]

/-- so allOf-only schemas are never compared -/
theorem undetected_allOf (cx : Ctx) (cmp : Cmp) (n : Nat) (loc : Loc) (m1 m2 : List Schema) (st : St) :
    compareProperties cx cmp n loc { allOf := m1 } { allOf := m2 } st = .ok st :=
  compareProperties_guard cx cmp n loc _ _ st ⟨rfl, rfl⟩

/-! ### objects without declared properties on ONE side (the guard of CompareProperties) -/

/-- a property-less object gains a required property: the step of CompareProperties that walks the NEW side's properties
    appends `AddedRequiredProperty` — the guard of CompareProperties (`both sides without properties`) does not return
    early here, because the new side has properties -/
theorem first_required_property_step (n : Nat) (loc : Loc) (t1 : Schema) (props2 : List (String × PropDefn))
    (acc : List (Loc × Code)) (kv : String × Schema) (h1 : t1.hasProps = false) (p : PropDefn)
    (hl : lookup props2 kv.1 = some p) (hr : p.required = true) (childLoc : Loc)
    (hc : addChildDiffNode n loc kv.1 kv.2 = .ok childLoc) :
    addedStep n loc t1 props2 acc kv = .ok (acc ++ [(childLoc, Code.AddedRequiredProperty)]) := by
  unfold addedStep
  simp [h1, hc, hl, hr, Outcome.bind]

/-- the premises of `first_required_property_step` are satisfiable: `{type: object}` gains the required string property `w` -/
example : ∃ c, addChildDiffNode 3 {} "w" { type := ["string"] } = .ok c ∧
    addedStep 3 {} { type := ["object"] } [("w", { schema := { type := ["string"] }, required := true })] [] ("w", { type := ["string"] })
      = .ok [(c, Code.AddedRequiredProperty)] := by
  refine ⟨_, rfl, ?_⟩
  exact first_required_property_step 3 {} { type := ["object"] } _ [] ("w", { type := ["string"] }) rfl
    { schema := { type := ["string"] }, required := true } rfl rfl _ rfl

theorem AddedRequiredProperty_breaking_in_request :
    getCompatibilityForChange Code.AddedRequiredProperty false = Compat.Breaking :=
  policy_sound_request _ (by decide)

/-- the last property of an object goes (the new side has no property of that name — e.g. no properties at all): the step
    of CompareProperties that walks the OLD side's properties appends `DeletedProperty`, whatever the new side holds -/
theorem last_property_removed_step (cmp : Cmp) (n : Nat) (loc : Loc) (props2 : List (String × PropDefn))
    (acc : St × List (Loc × Code)) (kv : String × PropDefn) (hl : lookup props2 kv.1 = none) (childLoc : Loc)
    (hc : addChildDiffNode n loc kv.1 kv.2.schema = .ok childLoc) :
    propStep cmp n loc props2 acc kv = .ok (acc.1, acc.2 ++ [(childLoc, Code.DeletedProperty)]) := by
  rw [propStep_none hl, hc]
  rfl

theorem DeletedProperty_breaking_in_response :
    getCompatibilityForChange Code.DeletedProperty true = Compat.Breaking :=
  policy_sound_response _ (by decide)

end Gs.Props.C13
