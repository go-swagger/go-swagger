import GsModel.Params.Bind
import GsModel.Scan.ListsProofs
import GsModel.Text.Init
/-
  C03 — Generated server binds and validates requests per the spec.

  `bindGen` transcribes the generated binder (presence test, last value wins, empty-value rule, SplitByFormat, item loop,
  array validations); `bindRef` is written from the Swagger 2.0 parameter rules.  Proved for ALL parameter specs of the
  fragment and ALL raw values:
  * `scalar_agrees`     — for string / integer scalars the generated binder IS the reference.
  * `array_agrees`      — for arrays it is the reference on every request whose items are non-empty and carry no surrounding
                          blanks (`cleanItems`).
  * `array_differs_on_blank_items` — that hypothesis is necessary: `a,,b` against `items.minLength: 1` reaches the handler
                          with ["a","b"] although the request carries an item the spec forbids, and ` 1 , 2` is bound to
                          [1,2] where the reference rejects (swag.SplitByFormat trims and drops).
  * `bind_sound_one`, `bind_sound_many` — whatever the handler receives satisfies every declared validation (`bindGen_sound`).
  * `required_enforced`, `optional_absent_keeps_default`, `allow_empty_passes` — a missing key and an empty value, by
                          `required` and `allowEmptyValue`.
  * `multi_agrees`, `multi_sound`, `multi_examples` — collectionFormat multi: the two agree on EVERY request (booleans
                          excepted, as for scalars).
  * `bool_agrees_on_lexicon`, `bool_never_rejected`, `bool_garbage_accepted` — booleans: the two agree on the words of the
                          lexicon; outside it the generated binder accepts any text (it becomes false), the reference rejects.
  * `default_literal_structure` — defaults: the Go literal `goSliceInitializer` writes for a default value has exactly the
                          structure of the value, whatever its strings contain (`Text.Init.skel_render`; no number text may
                          hold a quote); `default_old_rule_rewrites_strings` — rewriting the JSON text instead, as upstream
                          go-swagger does, changes the strings.
-/
namespace Gs.Props.C03
open Gs.Params

/-! ### splitting and joining -/

/-- `Params.splitOn` is the scanner's `Scan.splitOn` at a one-character class, so the lemmas of `Scan/ListsProofs.lean` apply -/
theorem splitOn_eq (sep : Char) (s : Str) : splitOn sep s = Gs.Scan.splitOn (· = sep) s := by
  induction s with
  | nil => rfl
  | cons c r ih =>
    obtain ⟨t, ts, hr, hc⟩ := Gs.Scan.splitOn_cons (· = sep) c r
    rw [hc, splitOn, ih, hr]
    by_cases h : c = sep <;> simp [h]

theorem joinSep_eq (sep : Char) (xs : List Str) : joinSep sep xs = [sep].intercalate xs := by
  induction xs with
  | nil => rfl
  | cons x r ih =>
    cases r with
    | nil => simp [joinSep, List.intercalate]
    | cons y r => rw [joinSep, ih, Gs.Scan.intercalate_cons_cons]

theorem splitOn_ne_nil (sep : Char) (s : Str) : splitOn sep s ≠ [] := by
  rw [splitOn_eq]; exact Gs.Scan.splitOn_ne_nil _ s

theorem splitOn_no_sep (sep : Char) (s : Str) (h : ∀ c ∈ s, c ≠ sep) : splitOn sep s = [s] := by
  rw [splitOn_eq]; exact Gs.Scan.splitOn_free _ s (fun c hc => decide_eq_false (h c hc))

theorem splitOn_joinSep (sep : Char) (xs : List Str) (hne : xs ≠ []) (h : ∀ x ∈ xs, x.contains sep = false) :
    splitOn sep (joinSep sep xs) = xs := by
  rw [splitOn_eq, joinSep_eq]
  exact Gs.Scan.splitOn_intercalate sep xs hne (fun x hx c hc e => by simpa [← e, hc] using h x hx)

theorem mem_splitOn (sep : Char) (s : Str) (c : Char) (hc : c ∈ s) (hne : c ≠ sep) : ∃ p ∈ splitOn sep s, c ∈ p := by
  have h : c ∈ (Gs.Scan.splitOn (· = sep) s).flatten := by rw [Gs.Scan.flatten_splitOn]; simp [hc, hne]
  rw [splitOn_eq]; exact List.mem_flatten.mp h

/-- a clean value is not empty: the split of `[]` has an empty item -/
theorem cleanItems_ne_nil {cf : String} {data : Str} (hc : cleanItems cf data = true) : data ≠ [] := by
  rintro rfl
  cases hc

/-- on clean items SplitByFormat is the plain split -/
theorem clean_split (cf : String) (data : Str) (hc : cleanItems cf data = true) :
    splitByFormat cf data = splitOn (sepOf cf) data := by
  rw [splitByFormat, if_neg (cleanItems_ne_nil hc)]
  simp only [cleanItems, List.all_eq_true, Bool.and_eq_true, decide_eq_true_eq] at hc
  rw [(List.map_congr_left fun s hs => (hc s hs).2).trans (List.map_id _), List.filter_eq_self]
  intro s hs
  simpa using (hc s hs).1

/-! ### the generated binder against the reference -/

theorem convertRef_eq (ty : PType) (hb : ty ≠ .bool) : convertRef ty = convert ty := by
  cases ty with
  | bool => exact absurd rfl hb
  | str => rfl
  | int b => rfl

/-- a missing key: rejected when required, otherwise the default stays (`bindRef`, `bindRefMulti` say so by definition) -/
theorem bindGen_none (p : PSpec) : bindGen p none = if p.required then .reject else .absent := by
  cases hr : p.required <;> cases hp : p.isArray <;> simp [bindGen, hr, hp, splitByFormat, lastOf, emptyCase]

/-- a scalar parameter given with values `vs`: the last one decides -/
theorem bindGen_scalar (p : PSpec) (hp : p.isArray = false) (vs : List Str) :
    bindGen p (some vs) = if vs.getLast?.getD [] = [] then emptyCase p else scalarCore p (vs.getLast?.getD []) := by
  simp [bindGen, hp]
  rfl   -- `lastOf (some vs)` is `vs.getLast?.getD []`

theorem bindGen_array (p : PSpec) (hp : p.isArray = true) (vs : List Str) :
    bindGen p (some vs) = if (splitByFormat p.cf (vs.getLast?.getD [])).isEmpty then emptyCase p
      else arrayCore p (splitByFormat p.cf (vs.getLast?.getD [])) := by
  simp [bindGen, hp]
  rfl   -- as above

/-- a text that converts to a value the validations accept is bound to that value -/
theorem scalarCore_ok (p : PSpec) (l : Str) (v : Val) (hc : convert p.ty l = some v) (hv : validOne p.v v = true) :
    scalarCore p l = .one v := by
  simp only [scalarCore, hc, hv, if_true]

theorem bindGenMulti_none (p : PSpec) : bindGenMulti p none = if p.required then .reject else .absent := by
  cases hr : p.required <;> simp [bindGenMulti, hr, emptyCase]

theorem scalar_agrees (p : PSpec) (hp : p.isArray = false) (hb : p.ty ≠ .bool) (raw : Option (List Str)) :
    bindGen p raw = bindRef p raw := by
  cases raw with
  | none => exact bindGen_none p
  | some vs =>
    rw [bindGen_scalar p hp]
    simp [bindRef, hp, emptyCase, scalarCore, convertRef_eq p.ty hb]

theorem bindItems_eq (p : PSpec) (xs : List Str) :
    bindItems p xs = (match xs.mapM (convert p.ty) with
      | none => none
      | some vals => if vals.all (validOne p.v) then some vals else none) := by
  induction xs with
  | nil => simp [bindItems]
  | cons x xs ih =>
    simp only [bindItems, List.mapM_cons, ih]
    cases convert p.ty x with
    | none => rfl
    | some v => cases xs.mapM (convert p.ty) <;> by_cases hv : validOne p.v v = true <;> simp [hv]

/-- the generated item loop followed by the array validations is the reference's: convert every item, then validate -/
theorem arrayCore_eq (p : PSpec) (items : List Str) :
    arrayCore p items = (match items.mapM (convert p.ty) with
      | none => .reject
      | some vals => if vals.all (validOne p.v) && validMany p vals then .many vals else .reject) := by
  rw [arrayCore, bindItems_eq]
  cases items.mapM (convert p.ty) with
  | none => rfl
  | some vals => by_cases ha : vals.all (validOne p.v) = true <;> simp [ha]

theorem array_agrees (p : PSpec) (hp : p.isArray = true) (hb : p.ty ≠ .bool) (raw : Option (List Str))
    (hclean : ∀ vs, raw = some vs → cleanItems p.cf (vs.getLast?.getD []) = true) : bindGen p raw = bindRef p raw := by
  cases raw with
  | none => exact bindGen_none p
  | some vs =>
    have hc := hclean vs rfl
    have hne := splitOn_ne_nil (sepOf p.cf) (vs.getLast?.getD [])
    rw [bindGen_array p hp, clean_split p.cf _ hc, arrayCore_eq]
    simp [bindRef, hp, hne, cleanItems_ne_nil hc, convertRef_eq p.ty hb]
    -- the two sides print alike: `bindRef` and `arrayCore_eq` each have a `match` of their own, which `rfl` sees through
    rfl

def itemsMin1 : PSpec := { isArray := true, ty := .str, v := { minLen := some 1 } }

/-- the hypothesis of `array_agrees` is necessary: an empty item is dropped, blanks around an integer are trimmed -/
theorem array_differs_on_blank_items :
    bindGen itemsMin1 (some ["a,,b".toList]) = .many [.s "a", .s "b"] ∧ bindRef itemsMin1 (some ["a,,b".toList]) = .reject ∧
    bindGen { itemsMin1 with ty := .int 64, v := {} } (some [" 1 , 2".toList]) = .many [.i 1, .i 2] ∧
    bindRef { itemsMin1 with ty := .int 64, v := {} } (some [" 1 , 2".toList]) = .reject := by
  decide +kernel

/-! ### what the handler receives satisfies the declared validations -/

/-- what a binding result promises the handler -/
def Sound (p : PSpec) : Bound → Prop
  | .one v => validOne p.v v = true
  | .many vs => (∀ v ∈ vs, validOne p.v v = true) ∧ validMany p vs = true
  | _ => True

/-- a value is handed over only after the very test `Sound` asks for has passed -/
theorem scalarCore_sound (p : PSpec) (l : Str) : Sound p (scalarCore p l) := by
  unfold scalarCore
  cases convert p.ty l with
  | none => trivial
  | some v => exact iteInduction (motive := Sound p) (fun hv => hv) fun _ => trivial

theorem arrayCore_sound (p : PSpec) (l : List Str) : Sound p (arrayCore p l) := by
  rw [arrayCore_eq]
  cases l.mapM (convert p.ty) with
  | none => trivial
  | some vals =>
    exact iteInduction (motive := Sound p) (fun h => by rwa [Bool.and_eq_true, List.all_eq_true] at h) fun _ => trivial

theorem Sound.ite {p : PSpec} {c : Prop} [Decidable c] {a b : Bound} (ha : Sound p a) (hb : Sound p b) :
    Sound p (if c then a else b) := by
  split <;> assumption

theorem emptyCase_sound (p : PSpec) : Sound p (emptyCase p) := .ite trivial trivial

theorem bindGen_sound (p : PSpec) (raw : Option (List Str)) : Sound p (bindGen p raw) :=
  .ite trivial (.ite (.ite (emptyCase_sound p) (arrayCore_sound p _)) (.ite (emptyCase_sound p) (scalarCore_sound p _)))

theorem bindGenMulti_sound (p : PSpec) (raw : Option (List Str)) : Sound p (bindGenMulti p raw) :=
  .ite trivial (.ite (emptyCase_sound p) (arrayCore_sound p _))

/-- whatever the handler receives satisfies the declared validations -/
theorem bind_sound_one (p : PSpec) (raw : Option (List Str)) (v : Val) (h : bindGen p raw = .one v) : validOne p.v v = true :=
  (h ▸ bindGen_sound p raw : Sound p (.one v))

theorem bind_sound_many (p : PSpec) (raw : Option (List Str)) (vs : List Val) (h : bindGen p raw = .many vs) :
    (∀ v ∈ vs, validOne p.v v = true) ∧ validMany p vs = true :=
  (h ▸ bindGen_sound p raw : Sound p (.many vs))

/-- collectionFormat multi: nothing is split or trimmed, so the generated binder and the reference agree on EVERY request
    (booleans excepted: the lexicon question is the same as for scalars) -/
theorem multi_agrees (p : PSpec) (hb : p.ty ≠ .bool) (raw : Option (List Str)) : bindGenMulti p raw = bindRefMulti p raw := by
  cases raw with
  | none => exact bindGenMulti_none p
  | some vs =>
    simp only [bindGenMulti, bindRefMulti, Option.isSome_some, Bool.not_true, Bool.and_false, Bool.false_eq_true, if_false, Option.getD_some, arrayCore_eq,
      convertRef_eq p.ty hb]
    -- as in `array_agrees`: the two sides differ in the name of their `match` only
    rfl

/-- multi: whatever the handler receives satisfies the declared validations -/
theorem multi_sound (p : PSpec) (raw : Option (List Str)) (vs : List Val) (h : bindGenMulti p raw = .many vs) :
    (∀ v ∈ vs, validOne p.v v = true) ∧ validMany p vs = true :=
  (h ▸ bindGenMulti_sound p raw : Sound p (.many vs))

/-- multi: each repeated key is one item, in order; an item that does not convert rejects the request -/
theorem multi_examples :
    bindGenMulti { isArray := true, cf := "multi", ty := .int 64 } (some ["1".toList, "2".toList, "3".toList]) = .many [.i 1, .i 2, .i 3] ∧
    bindGenMulti { isArray := true, cf := "multi", ty := .int 64 } (some ["1".toList, "zzz".toList]) = .reject ∧
    bindGenMulti { isArray := true, cf := "multi", ty := .int 64, required := true } none = .reject ∧
    bindGenMulti { isArray := true, cf := "multi", ty := .str } (some ["a,b".toList]) = .many [.s "a,b"] := by decide +kernel

/-- allowEmptyValue: an empty value passes even for a required parameter (and binds nothing); without it, it is rejected -/
theorem allow_empty_passes (p : PSpec) (hr : p.required = true) (hp : p.isArray = false) :
    (p.allowEmpty = true → bindGen p (some [[]]) = .absent ∧ bindRef p (some [[]]) = .absent) ∧
    (p.allowEmpty = false → bindGen p (some [[]]) = .reject ∧ bindRef p (some [[]]) = .reject) := by
  rw [bindGen_scalar p hp]
  constructor <;> intro ha <;> simp [bindRef, hr, ha, emptyCase]

theorem required_enforced (p : PSpec) (hr : p.required = true) : bindGen p none = .reject ∧ bindRef p none = .reject := by
  rw [bindGen_none, bindRef, hr]
  exact ⟨rfl, rfl⟩

theorem optional_absent_keeps_default (p : PSpec) (hr : p.required = false) :
    bindGen p none = .absent ∧ bindGen p (some [[]]) = .absent := by
  rw [bindGen_none]
  cases hp : p.isArray
  · simp [bindGen_scalar p hp, hr, emptyCase]
  · simp [bindGen_array p hp, hr, emptyCase, splitByFormat]

/-- booleans: on the words of the lexicon the generated binder and the reference agree -/
theorem bool_agrees_on_lexicon :
    (∀ w ∈ trueWords ++ falseWords, bindGen { ty := .bool } (some [w.toList]) = bindRef { ty := .bool } (some [w.toList])) := by
  decide +kernel

/-- the generated binder never rejects a boolean, whatever the text (swag.ConvertBool has no error case) and whatever the
    rest of the spec: the last value given, if it is not empty, is handed to the handler as `true` or `false` -/
theorem bindGen_bool (p : PSpec) (hp : p.isArray = false) (ht : p.ty = .bool) (vs : List Str) (hne : vs.getLast?.getD [] ≠ []) :
    bindGen p (some vs) = .one (.b (convertBool (vs.getLast?.getD []))) := by
  rw [bindGen_scalar p hp, if_neg hne]
  exact scalarCore_ok p _ _ (by rw [ht]; rfl) rfl

/-- `bindGen_bool` for a parameter that is a boolean and nothing else, given one value; the reference rejects
    `certainly-not`, which the generated binder hands to the handler as `false` (`bool_garbage_accepted`) -/
theorem bool_never_rejected (raw : Str) (hne : raw ≠ []) :
    bindGen { ty := .bool } (some [raw]) = .one (.b (convertBool raw)) :=
  bindGen_bool _ rfl rfl [raw] hne

theorem bool_garbage_accepted :
    bindGen { ty := .bool } (some ["certainly-not".toList]) = .one (.b false) ∧
    bindRef { ty := .bool } (some ["certainly-not".toList]) = .reject := by decide +kernel

/-- the hypothesis of `array_agrees` can be met: a clean pipes value, and what it is bound to -/
example : cleanItems "pipes" "1|2|3".toList = true ∧
    bindGen { isArray := true, cf := "pipes", ty := .int 64, maxItems := some 3 } (some ["1|2|3".toList]) = .many [.i 1, .i 2, .i 3] := by decide +kernel

/-! ### defaults: the Go literal written for a default value -/

/-- the structure of the literal `goSliceInitializer` writes for a default (`skel 0`: its text outside string literals, and of
    each string literal its two quotes) is the structure of the VALUE, whatever its strings contain -/
theorem default_literal_structure (v : Gs.Text.Init.V) (h : Gs.Text.Init.numsOk v = true) :
    Gs.Text.Init.skel 0 (Gs.Text.Init.render v) = Gs.Text.Init.shape v := by
  have := Gs.Text.Init.skel_render v [] h
  simpa [Gs.Text.Init.skel] using this

/-- string replacement on the JSON text (upstream go-swagger) rewrites brackets and braces inside the strings as well:
    `["a[1]","b}c"]` becomes `{"a{1,}","b,}c",}`, where the value-directed rendering keeps the strings -/
theorem default_old_rule_rewrites_strings :
    Gs.Text.Init.oldInit "[\"a[1]\",\"b}c\"]".toList = "{\"a{1,}\",\"b,}c\",}".toList ∧
    Gs.Text.Init.render (.arr [.str "a[1]".toList, .str "b}c".toList]) = "{\"a[1]\",\"b}c\",}".toList := by
  decide +kernel

end Gs.Props.C03
