import GsModel.Diff.Self
import GsModel.Diff.TermRec
/-
  C12 — diff: a spec never differs from itself, and diff never crashes.

  Statement (properties.jsonl): comparing any valid spec with itself — or with a re-serialised copy — reports no
  change; comparing any two valid specs terminates with a report, it never panics or loops.

  What is proved here, about the executable model `Gs.Diff.analyse` (tied to cmd/swagger/commands/diff by the
  correspondence run of `vx check C12` and by the regenerated tables `Gs.Gen`):
  * `self_identity`           — full strength for the identity half: for EVERY well-formed document, every fuel and
                                every iteration order, a normal return of `analyse s s` is the empty report.
  * `reser_sets`, `reser_enum`, `reser_required` — re-serialisation of the lists the analyser reads as sets.
  * `total_no_panic`          — the no-crash half: for EVERY pair of valid documents (every `$ref` at every depth names a
                                definition, every array parameter / header level has items), every fuel and every
                                iteration order, `analyse a b` is not a panic: none of the unguarded dereferences
                                (`Type[0]`, `Items.Schema`, nil schema after `$ref` resolution, nil node) is reached —
                                through `$ref` cycles, allOf, tuples, untyped schemas, path-level parameters.
                                `invalid_ref_panics`, `array_without_items_panics`: both hypotheses are needed;
                                `sample_valid`, `sample2_valid`: they can be met.
  * `guard_returns`, `guard_marks`, `key_ignores_depth` — the mechanism of the recursion guard: a `$ref` that arrives at a
                                visited location key returns at once with the state untouched, following a `$ref` marks the
                                key, and the key depends on the first two nodes of the location only (so every location
                                below depth 2 of one subtree shares its key: at most one `$ref` per key is followed).
  * `terminates_acyclic`, `returns_report` — termination for documents without recursive definitions: if every schema,
                                `$ref`s followed, is at most d levels deep (`Spec.fitsB d`, computed by the driver on every
                                generated document), the analyser does not run out of fuel d+1: its recursion is bounded by
                                the nesting of the documents, and with validity it RETURNS A REPORT.
  * `recursion_through_allOf_is_unbounded` (+ `rec_valid`) — the termination half is FALSE of the code for recursive structures
                                that pass through allOf: on one VALID document the model yields no report for ANY fuel, it
                                runs out of each (`recursion_through_allOf_exhausts_fuel`; the real command dies with a
                                stack overflow); known finding.
                                NOT proved: termination (“never loops”) for RECURSIVE definitions — there the visited-key
                                argument that bounds the real recursion is exercised by the correspondence run only.
  (`guard_returns`, `guard_marks` and `recursion_through_allOf_is_unbounded` are the theorems of the same names of `Gs.Diff`
  (Diff/TermRec.lean), `self_identity` is `Gs.Diff.analyse_self`: restated here, where the check of the property audits them.)
  * `*_repaired`              — the totality half was FALSE of the pinned code: five concrete valid documents made the
                                analyser panic (all repaired by `fix:` commits in
                                /repo); these theorems pin the repaired behaviour on exactly those documents.
-/
namespace Gs.Props.C12
open Gs Gs.Gen Gs.Diff Gs.Outcome

/-- The property, identity half, as a statement about the model. -/
def IdentityStatement : Prop :=
  ∀ (fl : Flags) (n : Nat) (s : Spec), s.wf = true → Holds (fun ds => ds = []) (analyse fl n s s)

theorem self_identity : IdentityStatement := analyse_self

/- non-vacuity: a concrete non-trivial document satisfies the hypothesis, and the model returns normally on it. -/
def sampleParam : Param :=
  { name := "q", loc := "query", chain := [{ type := "string", v := { minLength := some 1 } }] }
def sampleOp : Operation :=
  { method := "get", tags := some ["t"], params := [sampleParam],
    responses := [{ code := 200, desc := "ok", schema := some { ref := "A" } }] }
def sampleDef : Schema :=
  { type := ["object"], hasProps := true, required := ["id"],
    props := [("id", { type := ["integer"], format := "int64" }), ("next", { ref := "A" })] }
def sampleSpec : Spec :=
  { consumes := some ["application/json"], host := "h",
    paths := [{ url := "/a", ops := [sampleOp] }], defs := [("A", sampleDef)] }

example : sampleSpec.wf = true := by decide
example : (analyse {} 50 sampleSpec sampleSpec).isOk = true := by decide +kernel

/-- Re-serialisation, lists read as sets (consumes, produces, schemes, tags, enum values):
    any reordering of the list, with or without repeated entries, reports nothing. -/
theorem reser_sets (l l' : List String) (h : ∀ x, x ∈ l ↔ x ∈ l') : diffsTo (some l) l' = ([], []) :=
  diffsTo_of_mem_iff h

theorem reser_enum (l l' : List JVal) (h : ∀ x, x ∈ l.map (·.shown) ↔ x ∈ l'.map (·.shown)) :
    compareEnums l l' = [] := by
  simp [compareEnums, reser_sets _ _ h]

/-- Re-serialisation of `required`: the analyser only asks for membership. -/
theorem reser_required (r r' : List String) (h : ∀ x, x ∈ r ↔ x ∈ r') (k : String) : r.contains k = r'.contains k := by
  have := h k
  by_cases hk : k ∈ r
  · simp [hk, this.mp hk]
  · have hk' : k ∉ r' := fun e => hk (this.mpr e)
    simp [hk, hk']

/-! ### former panic witnesses (each was a crash of the pinned tree, repaired by a `fix:` commit; the model follows the
     repaired code, the documents stay in the corpus replayed by the check, and these theorems pin the repaired
     behaviour of the model on them) -/

def okEmpty (o : Outcome (List Diff)) : Bool := match o with | .ok ds => ds.isEmpty | _ => false

/-- array-valued parameter default — was `schema1.Default != schema2.Default` on two `[]interface{}` values. -/
def paramArrayDefault : Param :=
  { name := "ids", loc := "query",
    chain := [{ type := "array", dflt := some { kind := 4, canon := "[\"a\"]", shown := "[a]" } }, { type := "string" }] }
def specArrayDefault : Spec :=
  { paths := [{ url := "/a",
                ops := [{ method := "get", params := [paramArrayDefault], responses := [{ code := 200, desc := "ok" }] }] }] }

theorem self_default_repaired : specArrayDefault.wf = true ∧ okEmpty (analyse {} 50 specArrayDefault specArrayDefault) = true := by
  decide +kernel

/-- tuple-typed property — was `schema.Items.Schema.SchemaProps` with `Items.Schema == nil`. -/
def schemaTuple : Schema :=
  { type := ["object"], hasProps := true,
    props := [("t", { type := ["array"], hasItems := true, itemMany := [{ type := ["string"] }, { type := ["integer"] }] })] }
def specTuple : Spec :=
  { paths := [{ url := "/a",
                ops := [{ method := "get", responses := [{ code := 200, desc := "ok", schema := some schemaTuple }] }] }] }

theorem self_tuple_repaired : specTuple.wf = true ∧ okEmpty (analyse {} 50 specTuple specTuple) = true := by
  decide +kernel

/-- a property that is a `$ref` in one document and the untyped schema `{}` in the other — was `Type[0]`. -/
def specRefProp (p : Schema) : Spec :=
  let body : Schema := { type := ["object"], hasProps := true, props := [("p", p)] }
  { paths := [{ url := "/a", ops := [{ method := "get", responses := [{ code := 200, desc := "ok", schema := some body }] }] }],
    defs := [("A", { type := ["string"] })] }

theorem ref_untyped_repaired :
    (analyse {} 50 (specRefProp { ref := "A" }) (specRefProp {})).isOk = true ∧
    (analyse {} 50 (specRefProp {}) (specRefProp { ref := "A" })).isOk = true := by
  decide +kernel

/-- a response code added without a body schema — was `getSchemaDiffNode("Body", (*spec.Schema)(nil))`. -/
def specResp (codes : List Nat) : Spec :=
  { paths := [{ url := "/a", ops := [{ method := "get", responses := codes.map (fun c => { code := c, desc := "ok" }) }] }] }

theorem added_response_without_schema_repaired :
    (specResp [200]).wf = true ∧ (specResp [200, 204]).wf = true ∧
    (analyse {} 50 (specResp [200]) (specResp [200, 204])).isOk = true ∧
    (analyse {} 50 (specResp [200, 204]) (specResp [200])).isOk = true := by
  decide +kernel

/-- array schema whose items are a tuple on both sides — was `isRefType((*spec.Schema)(nil))`. -/
def specArrTuple : Spec :=
  let body : Schema := { type := ["array"], hasItems := true, itemMany := [{ type := ["string"] }] }
  { paths := [{ url := "/a", ops := [{ method := "get", responses := [{ code := 200, desc := "ok", schema := some body }] }] }] }

theorem array_tuple_repaired : okEmpty (analyse {} 50 specArrTuple specArrTuple) = true := by
  decide +kernel

/-! ### totality: no panic on valid documents -/

/-- The property, no-crash half, as a statement about the model (validity as the computable check `validB`, at every depth). -/
def TotalityStatement : Prop :=
  ∀ (fl : Flags) (n : Nat) (a b : Spec), (∀ k, a.validB k = true) → (∀ k, b.validB k = true) → NoPanic (analyse fl n a b)

theorem total_no_panic : TotalityStatement :=
  fun fl n a b ha hb => analyse_safe fl n a b (adm_of_checks a 0 (fun _ => ha) nofun) (adm_of_checks b 0 (fun _ => hb) nofun)

/-- the same without the triple: the outcome is never `panic` -/
theorem total_not_panic (fl : Flags) (n : Nat) (a b : Spec) (ha : ∀ k, a.validB k = true) (hb : ∀ k, b.validB k = true) :
    (analyse fl n a b).isPanic = false := by
  have h := total_no_panic fl n a b ha hb
  generalize analyse fl n a b = x at h
  cases x with
  | ok _ => rfl
  | fuel => rfl
  | panic w => exact h.elim

/-- non-vacuity: the sample document (a `$ref` cycle through `A.next`) is valid at every depth -/
theorem sample_valid : ∀ k, sampleSpec.validB k = true :=
  Spec.validB_of_nestB 3 sampleSpec (by decide) (by decide)

/-- a second valid document, different from the first in a `$ref`-typed property, a path-level array parameter and a tuple -/
def sampleSpec2 : Spec :=
  { paths := [{ url := "/a", params := [{ name := "ids", loc := "query", chain := [{ type := "array" }, { type := "integer" }] }],
                ops := [{ method := "get", responses := [{ code := 200, desc := "ok", schema := some { ref := "B" } }] }] }],
    defs := [("A", { type := ["object"], hasProps := true, props := [("next", { ref := "B" })], allOf := [{ ref := "B" }] }),
             ("B", { type := ["array"], hasItems := true, itemMany := [{ type := ["string"] }] })] }

theorem sample2_valid : ∀ k, sampleSpec2.validB k = true :=
  Spec.validB_of_nestB 3 sampleSpec2 (by decide) (by decide)

example : (analyse {} 50 sampleSpec sampleSpec2).isOk = true ∧ (analyse {} 50 sampleSpec2 sampleSpec).isOk = true := by decide +kernel

/-! ### termination without recursive definitions -/

/-- the analyser does not run out of fuel `n+2` on documents whose schemas are at most `n+1` levels deep ($refs followed) -/
theorem terminates_acyclic (fl : Flags) (n : Nat) (a b : Spec) (fa : a.fitsB (n+1) = true) (fb : b.fitsB (n+1) = true) :
    NoFuel (analyse fl (n+2) a b) :=
  analyse_term fl n a b (adm_of_checks a _ nofun (fun _ => fa)) (adm_of_checks b _ nofun (fun _ => fb))

/-- valid and not recursive: comparing the two documents returns a report -/
theorem returns_report (fl : Flags) (n : Nat) (a b : Spec) (ha : ∀ k, a.validB k = true) (hb : ∀ k, b.validB k = true)
    (fa : a.fitsB (n+1) = true) (fb : b.fitsB (n+1) = true) : (analyse fl (n+2) a b).isOk = true :=
  (analyse_meets fl (n+2) (n+1) a b (adm_of_checks a _ (fun _ => ha) (fun _ => fa)) (adm_of_checks b _ (fun _ => hb) (fun _ => fb))
    (fun _ => ⟨Nat.lt_succ_self _, Nat.le_add_left 2 n⟩)).isOk

/-- non-vacuity: sampleSpec2 is valid and 3 levels deep; sampleSpec (A.next → A) is recursive and does not fit depth 12 -/
example : sampleSpec2.fitsB 3 = true ∧ sampleSpec.fitsB 12 = false := by decide
example : (analyse {} 4 sampleSpec2 sampleSpec2).isOk = true :=
  returns_report {} 2 sampleSpec2 sampleSpec2 sample2_valid sample2_valid (by decide) (by decide)

/-! ### termination is false in general: recursion through allOf -/

/-- the witness document is valid (every `$ref` resolves, at every depth) … -/
theorem rec_valid : ∀ k, recSpec.validB k = true :=
  Spec.validB_of_nestB 3 recSpec (by decide) (by decide)

/-- … and comparing it with itself never yields a report, whatever the fuel and the iteration order -/
theorem recursion_through_allOf_is_unbounded (fl : Flags) (n : Nat) : (analyse fl n recSpec recSpec).isOk = false :=
  Gs.Diff.recursion_through_allOf_is_unbounded fl n

/-- (it does not panic either — `total_no_panic` applies — so the model runs out of fuel: the real recursion has no bound) -/
theorem recursion_through_allOf_exhausts_fuel (fl : Flags) (n : Nat) : isFuel (analyse fl n recSpec recSpec) = true := by
  have h1 := recursion_through_allOf_is_unbounded fl n
  have h2 := total_not_panic fl n recSpec recSpec rec_valid rec_valid
  generalize analyse fl n recSpec recSpec = x at h1 h2
  cases x with
  | ok _ => cases h1
  | panic w => cases h2
  | fuel => rfl

/-! ### the recursion guard -/

theorem guard_returns (cx : Ctx) (n : Nat) (loc : Loc) (s1 s2 : Schema) (st : St) (k : String)
    (hr : s1.ref ≠ "") (hsame : checkRefChangeSchema n s1 s2 = .ok [])
    (hk : schemaLocationKey loc = .ok k) (hv : st.visited.contains k = true) :
    compareSchema cx (n+1) loc (some s1) (some s2) st = .ok st :=
  Gs.Diff.guard_returns cx n loc s1 s2 st k hr hsame hk hv

theorem guard_marks (cx : Ctx) (loc : Loc) (s1 s2 : Schema) (st : St) (k : String)
    (hr : s1.ref ≠ "") (hk : schemaLocationKey loc = .ok k) (hv : st.visited.contains k = false) :
    ∃ o1 o2 st', resolveBoth cx loc s1 s2 st = .ok (some (o1, o2, st')) ∧ st'.visited.contains k = true :=
  Gs.Diff.guard_marks cx loc s1 s2 st k hr hk hv

theorem key_ignores_depth (l : Loc) (a b : NodeSeg) (rest : List NodeSeg) (c : NodeSeg) (h : l.node = a :: b :: rest) :
    schemaLocationKey (l.addNode c) = schemaLocationKey l :=
  Gs.Diff.addNode_key l a b rest c h

/- the hypotheses are needed: a `$ref` to a missing definition is a nil dereference … -/
def specDangling : Spec :=
  { paths := [{ url := "/a", ops := [{ method := "get", responses := [{ code := 200, desc := "ok", schema := some { ref := "Nope" } }] }] }] }
theorem invalid_ref_panics : specDangling.validB 1 = false ∧ (analyse {} 50 specDangling specDangling).isPanic = true := by decide

/- … and so is an array parameter without items. -/
def specNoItems : Spec :=
  { paths := [{ url := "/a", ops := [{ method := "get", params := [{ name := "ids", loc := "query", chain := [{ type := "array" }] }],
                                        responses := [{ code := 200, desc := "ok" }] }] }] }
theorem array_without_items_panics : specNoItems.validB 0 = false ∧ (analyse {} 50 specNoItems specNoItems).isPanic = true := by decide

end Gs.Props.C12
