import GsModel.Scan.GoTypes
/-
  C16 — Scanned model schemas describe the type's actual JSON encoding.   (proof on the modelled fragment, PARTIAL)

  `Scan.schemaOf` is the schema the scanner builds for a Go type, `Scan.encode` the JSON encoding/json produces for a value
  of it, `Scan.accepts` strict draft-4 acceptance of the structural part of a schema.
  * `conforms_containers` — for EVERY type built from basic kinds, time.Time, text-marshalling types
    (encoding.TextMarshaler), []byte, interface{}, pointers, slices, arrays and string-keyed maps (any nesting) and EVERY
    value of it: if the encoding contains no JSON null, the scanned schema accepts it.
  * `conforms` — the same for EVERY well-formed model type INCLUDING structs at any depth (json names distinct within a
    struct, `,string` only on fields where encoding/json honours it; renamed, omitted-when-empty and quoted fields): every
    member the encoder emits is accepted by the property the scanner declared for it.  `container_wf`: the container
    fragment is the struct-free part, and both statements are instances of `conforms_wf` (well-formed types, either setting
    of the scanner's `,string` switch).  `struct_examples` are evaluated instances.
  * the excluded points are real, each proved: `nil_pointer_rejected`, `nil_slice_rejected` (JSON null against a typed
    schema; the scanner's --nullable-pointers option exists for the first), `string_option_mismatch` (a `,string` field
    of a type on which encoding/json ignores the option: a scanner that types it as string all the same, `strAll = true`,
    rejects the encoding; with `strAll = false` it is accepted).
  Tie: Go packages with random model types are scanned with codescan AND compiled into a program that marshals random values
  of the same types; every marshalled value is validated against the scanned definition with go-openapi/validate, and the
  scanned definition is compared with `schemaOf` on the same type expression.
-/
namespace Gs.Props.C16
open Gs Gs.Schema Gs.Scan

/-- types without structs -/
def container : Nat → GoTy → Bool
  | 0, _ => false
  | _+1, .basic _ => true
  | n+1, .ptr t => container n t
  | n+1, .slice t => container n t
  | n+1, .arr t => container n t
  | n+1, .map t => container n t
  | _+1, .time => true
  | _+1, .text => true
  | _+1, .bytes => true
  | _+1, .iface => true
  | _+1, _ => false

def distinctNames : List (FTag × GoTy) → Bool
  | [] => true
  | f :: r => !(r.any (fun g => g.1.json == f.1.json)) && distinctNames r

theorem distinctNames_inj (fs : List (FTag × GoTy)) (h : distinctNames fs = true) :
    ∀ f ∈ fs, ∀ g ∈ fs, f.1.json = g.1.json → f = g := by
  induction fs with
  | nil => nofun
  | cons x r ih =>
    simp only [distinctNames, Bool.and_eq_true, Bool.not_eq_true', List.any_eq_false, beq_iff_eq] at h
    intro f hf g hg e
    simp only [List.mem_cons] at hf hg
    rcases hf with rfl | hf <;> rcases hg with rfl | hg
    · rfl
    · exact absurd e.symm (h.1 g hg)
    · exact absurd e (h.1 f hf)
    · exact ih h.2 f hf g hg e

/-- well-formed model types: json names distinct within a struct, `,string` only where encoding/json honours it -/
def wf : Nat → GoTy → Bool
  | 0, _ => false
  | _+1, .basic _ => true
  | n+1, .ptr t => wf n t
  | n+1, .slice t => wf n t
  | n+1, .arr t => wf n t
  | n+1, .map t => wf n t
  | n+1, .strct fs => distinctNames fs && fs.all (fun ft => wf n ft.2 && (!ft.1.asString || stringable ft.2))
  | _+1, .time => true
  | _+1, .text => true
  | _+1, .bytes => true
  | _+1, .iface => true

theorem mem_mapM_some {α β} {f : α → Option β} {l : List α} {r : List β} (h : l.mapM f = some r) :
    ∀ b ∈ r, ∃ a ∈ l, f a = some b := by
  induction l generalizing r with
  | nil => cases h; nofun
  | cons a l ih =>
    simp only [List.mapM_cons, Option.bind_eq_bind, Option.bind_eq_some_iff, Option.pure_def, Option.some.injEq] at h
    obtain ⟨x, hx, xs, hxs, rfl⟩ := h
    intro b hb
    cases hb with
    | head => exact ⟨a, List.mem_cons_self, hx⟩
    | tail _ hb =>
      obtain ⟨a', ha', hf⟩ := ih hxs b hb
      exact ⟨a', List.mem_cons_of_mem _ ha', hf⟩

theorem accepts_any (m : Nat) (j : J) : accepts (m+1) {} j = true := by
  cases j <;> rfl

theorem noNull_pos : ∀ (m : Nat) (j : J), noNull m j = true → ∃ k, m = k + 1
  | 0, _, h => by simp [noNull] at h
  | k+1, _, _ => ⟨k, rfl⟩

theorem accepts_arr_of_mapM {α} {f : α → Option J} {s : Schema} {k : Nat} {l : List α} {j : J}
    (ih : ∀ v x, f v = some x → noNull k x = true → accepts k s x = true)
    (he : (l.mapM f).map J.arr = some j) (hn : noNull (k+1) j = true) :
    accepts (k+1) { ty := "array", items := some s } j = true := by
  obtain ⟨r, hm, rfl⟩ := Option.map_eq_some_iff.mp he
  simp only [noNull, List.all_eq_true] at hn
  simp only [accepts, typeOk, decide_true, Bool.or_true, Bool.true_and, List.all_eq_true]
  intro x hx
  obtain ⟨v, _, hv⟩ := mem_mapM_some hm x hx
  exact ih v x hv (hn x hx)

/- `fun_induction` / `fun_cases` on `encode` number its equations in the order of the definition (the struct equation gives two):
   1 no fuel · 2–5 bool, int, float, string · 6, 7 pointer: nil, value · 8, 9 slice: nil, list · 10 array · 11, 12 map: nil, entries ·
   13, 14 struct: wrong number of values, fields · 15–17 time, text, []byte · 18 nil []byte · 19, 20 interface{}: value, nil · 21 anything else -/

theorem stringable_quote (n : Nat) (t : GoTy) (v : GoVal) (j : J) (hs : stringable t = true) :
    encode n t v = some j → (∃ s, quoteJ j = .str s) ∨ j = .null := by
  fun_induction encode n t v
  case case1 | case21 => nofun                                                       -- `none`
  case case2 | case3 | case4 | case5 => rintro ⟨⟩; exact .inl ⟨_, rfl⟩               -- the basic kinds
  case case6 => rintro ⟨⟩; exact .inr rfl                                            -- nil pointer
  case case7 n t w ih =>                                                             -- pointer
    cases t with
    | basic k => exact ih rfl
    | _ => cases hs
  all_goals cases hs                                                                 -- the other types are not stringable

/-- the member written for one field is accepted by the property declared for that field: under `,string` (which `wf`
    allows only where encoding/json honours it) a quoted scalar against `string`, otherwise the field's own encoding against
    the field's own schema -/
theorem field_conforms (b : Bool) {n k : Nat} {tag : FTag} {t : GoTy} {v : GoVal} {x : J}
    (ih : noNull k x = true → accepts k (schemaOf b n t) x = true) (hx : encode n t v = some x)
    (hstr : (!tag.asString || stringable t) = true)
    (hn : noNull k (if tag.asString && stringable t then quoteJ x else x) = true) :
    accepts k (if tag.asString && (b || stringable t) then { ty := "string" } else schemaOf b n t)
      (if tag.asString && stringable t then quoteJ x else x) = true := by
  cases ha : tag.asString with
  | false => simpa [ha] using ih (by simpa [ha] using hn)
  | true =>
    have hs : stringable t = true := by simpa [ha] using hstr
    simp only [ha, hs, Bool.and_self, Bool.or_true, if_true] at hn ⊢
    obtain ⟨k', rfl⟩ := noNull_pos k _ hn
    rcases stringable_quote n t v x hs hx with ⟨s, hq⟩ | rfl
    · rw [hq]; simp [accepts, typeOk]
    · cases hn

/-- the general statement: the scanner's `,string` switch `b` plays no part on well-formed types -/
theorem conforms_wf (b : Bool) (n : Nat) : ∀ (t : GoTy) (v : GoVal) (j : J) (m : Nat),
    wf n t = true → encode n t v = some j → noNull m j = true → accepts m (schemaOf b n t) j = true := by
  -- every recursive call of `encode` is at the predecessor; strong induction keeps `n` a variable, which `fun_cases` needs
  induction n using Nat.strongRecOn with | _ n ih => ?_
  intro t v j m hc he hn
  obtain ⟨k, rfl⟩ := noNull_pos m j hn
  revert he
  fun_cases encode n t v
  case case1 | case13 | case21 => nofun                                              -- `none`
  case case6 | case8 | case11 | case18 => rintro ⟨⟩; cases hn                        -- nil pointer, slice, map, []byte: `null`
  case case2 | case3 | case4 | case5 | case15 | case16 | case17 =>                   -- basic kinds, time, text, []byte
    rintro ⟨⟩; simp [accepts, schemaOf, kindSchema, typeOk]
  case case19 | case20 => exact fun _ => accepts_any k j                             -- interface{}
  case case7 n t w => exact fun he => ih n n.lt_succ_self t w j (k+1) hc he hn       -- pointer
  case case9 n t l | case10 n t l =>                                                 -- slice, array
    exact fun he => accepts_arr_of_mapM (fun a x => ih n n.lt_succ_self t a x k hc) he hn
  case case12 n t kvs =>                                                             -- map
    intro he
    obtain ⟨r, hm, rfl⟩ := Option.map_eq_some_iff.mp he
    simp only [noNull, List.all_eq_true] at hn
    simp only [accepts, schemaOf, typeOk, Bool.true_and, decide_true, Bool.or_true, List.all_nil, lookup, Option.isSome_none,
      Bool.false_or, List.all_eq_true]
    intro kv hkv
    obtain ⟨a, _, ha⟩ := mem_mapM_some hm kv hkv
    obtain ⟨x, hx, rfl⟩ := Option.map_eq_some_iff.mp ha
    exact ih n n.lt_succ_self t a.2 x k hc hx (hn _ hkv)
  case case14 n fs vs _ =>                                                           -- struct
    intro he
    simp only [wf, Bool.and_eq_true, List.all_eq_true] at hc
    obtain ⟨hd, hall⟩ := hc
    obtain ⟨l, hm, rfl⟩ := Option.map_eq_some_iff.mp he
    simp only [noNull, List.all_eq_true] at hn
    simp only [accepts, schemaOf, typeOk, Bool.true_and, decide_true, Bool.or_true, Bool.and_true, List.all_eq_true]
    -- the property declared for a field `ft` against the member of that name, when there is one
    intro kp hkp
    obtain ⟨ft, hft, rfl⟩ := List.mem_map.mp hkp
    cases hl : lookup (List.filterMap id l) ft.1.json with
    | none => rfl
    | some w =>
      -- the member was written for some field `fv.1` with value `fv.2` …
      have hmem := lookup_mem _ _ _ hl
      obtain ⟨o, ho, rfl⟩ := List.mem_filterMap.mp hmem
      obtain ⟨fv, hfv, hg⟩ := mem_mapM_some hm _ ho
      cases hskip : fv.1.1.omitempty && isEmptyVal fv.2 with
      | true => rw [hskip, if_pos rfl] at hg; cases hg                               -- (an omitted field writes none)
      | false =>
        rw [hskip, if_neg Bool.false_ne_true] at hg
        obtain ⟨x, hx, hg⟩ := Option.map_eq_some_iff.mp hg
        simp only [Option.some.injEq, Prod.mk.injEq] at hg
        obtain ⟨hname, rfl⟩ := hg
        -- … and that field is `ft`: names are distinct
        obtain rfl : fv.1 = ft := distinctNames_inj fs hd fv.1 (List.of_mem_zip hfv).1 ft hft hname
        have ⟨hwf, hstr⟩ := hall fv.1 hft
        exact field_conforms b (ih n n.lt_succ_self fv.1.2 fv.2 x k hwf hx) hx hstr (hn _ hmem)

theorem conforms : ∀ (n : Nat) (t : GoTy) (v : GoVal) (j : J) (m : Nat),
    wf n t = true → encode n t v = some j → noNull m j = true → accepts m (schemaOf false n t) j = true :=
  conforms_wf false

/-- the container fragment is the struct-free part of `conforms` -/
theorem container_wf : ∀ (n : Nat) (t : GoTy), container n t = true → wf n t = true := by
  intro n
  induction n with
  | zero => nofun
  | succ n ih =>
    intro t h
    cases t with
    | ptr t | slice t | arr t | map t => exact ih t h
    | strct _ => cases h
    | _ => rfl

theorem conforms_containers (b : Bool) : ∀ (n : Nat) (t : GoTy) (v : GoVal) (j : J) (m : Nat),
    container n t = true → encode n t v = some j → noNull m j = true → accepts m (schemaOf b n t) j = true :=
  fun n t v j m hc => conforms_wf b n t v j m (container_wf n t hc)

/-! ### the excluded points are real -/

theorem nil_pointer_rejected : ∀ m, accepts m (schemaOf false 3 (.ptr (.basic .str))) .null = false ∧
    encode 3 (.ptr (.basic .str)) .nil = some .null := by
  intro m; cases m <;> exact ⟨rfl, rfl⟩

theorem nil_slice_rejected : ∀ m, accepts m (schemaOf false 3 (.slice (.basic .int))) .null = false ∧
    encode 3 (.slice (.basic .int)) .nil = some .null := by
  intro m; cases m <;> exact ⟨rfl, rfl⟩

/-- []byte: a base64 string on the wire and in the schema (upstream go-swagger scans it as an array of integers) -/
theorem bytes_ok (x : String) : accepts 2 (schemaOf false 3 .bytes) (.str x) = true ∧ encode 3 .bytes (.bytes x) = some (.str x) :=
  ⟨rfl, rfl⟩

/-- a `,string` option on a slice field is ignored by encoding/json: a scanner that looks at the option only (`strAll = true`)
    types the field as string and rejects the encoding; with `strAll = false` the schema accepts it -/
theorem string_option_mismatch :
    (encode 5 (.strct [({ json := "xs", asString := true }, .slice (.basic .int))]) (.strct [.list [.int 1]])).map
      (accepts 5 (schemaOf true 5 (.strct [({ json := "xs", asString := true }, .slice (.basic .int))]))) = some false ∧
    (encode 5 (.strct [({ json := "xs", asString := true }, .slice (.basic .int))]) (.strct [.list [.int 1]])).map
      (accepts 5 (schemaOf false 5 (.strct [({ json := "xs", asString := true }, .slice (.basic .int))]))) = some true := by decide +kernel

/-- structs (evaluated examples): rename, omitempty, `,string` on a number, nesting -/
def exTy : GoTy := .strct [({ json := "id" }, .basic .int), ({ json := "name", omitempty := true }, .basic .str),
  ({ json := "ratio", asString := true }, .basic .float), ({ json := "tags" }, .slice (.basic .str)),
  ({ json := "inner" }, .strct [({ json := "ok" }, .basic .bool)]), ({ json := "when" }, .time)]

theorem struct_examples :
    (encode 6 exTy (.strct [.int 7, .str "", .float 1500, .list [.str "a"], .strct [.bool true], .time "2020-01-01T00:00:00Z"])).map
      (accepts 6 (schemaOf false 6 exTy)) = some true ∧
    (encode 6 exTy (.strct [.int 7, .str "n", .float 0, .list [], .strct [.bool false], .time "t"])).map
      (accepts 6 (schemaOf true 6 exTy)) = some true := by decide +kernel

/-- text-marshalling types (encoding.TextMarshaler, value or pointer receiver reached through a pointer): as a field, behind a
    pointer, as slice elements and map values the scanned schema says `string` and encoding/json writes a string -/
def textTy : GoTy := .strct [({ json := "price" }, .text), ({ json := "share" }, .ptr .text),
  ({ json := "shares" }, .slice (.ptr .text)), ({ json := "by_name" }, .map (.ptr .text))]
theorem text_marshalers_conform :
    wf 6 textTy = true ∧
    (encode 6 textTy (.strct [.text "12", .ptr (.text "1/2"), .list [.ptr (.text "3/4")], .map [("k", .ptr (.text "5/6"))]])).map
      (accepts 8 (schemaOf false 6 textTy)) = some true := by
  decide +kernel

end Gs.Props.C16
