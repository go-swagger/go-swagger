import GsModel.Names.Mangle
import GsModel.Gen.Formats
import GsModel.Names.Timeout
/-
  C01 — Generated code always builds.   (proof, PARTIAL: see below)

  What is proved here, for ALL names, over tables regenerated from the live code on every run:
  * `mangleVar_not_keyword` — `MangleVarName` never returns a Go keyword (the reserved list IS Go's 25 keywords:
    `reserved_is_go_keywords`; `k ++ "Var"` is never reserved: `var_suffix_escapes`; and the live function does what the
    model says on every reserved word: `reservedVar_model`).
  * `file_never_excluded` — a generated file name is never subject to a GOOS / GOARCH / _test file-name build constraint,
    judged against go/build of the installed toolchain (`goBuildTokens`), not against the generator's own copy of the list:
    needs `tokens_covered` (every token go/build knows is in the generator's table) and `appended_is_neutral`;
    `file_examples`: names that would be excluded are renamed, others are left alone.
  * `special_dirs_renamed` — `vendor` and `internal` never survive as package directory names.
  * format tables (`generator/formats.go`): every string format that maps to a strfmt type is known to the parameter
    templates as a custom formatter (`strfmt_formats_have_formatter`) and has a zero value (`strfmt_formats_have_zero`);
    numeric formats have a converter, a formatter and a zero value (`numeric_formats_convert`), the two tables have the same
    keys and pair ConvertX with FormatX (`converters_formatters_paired`); every base type but `file` has a zero value
    (`base_types_have_zero`).
  * `timeout_field_fresh` — for EVERY set of parameter names, `renameTimeout` (whose Go recursion has no bound of its own)
    terminates within maxLen+8 steps and returns a name for the client's private timeout field that collides with none of
    them, case-insensitively (`rename_sound`, `bump_terminates`); tied by correspondence through a verif accessor.
  What is NOT proved: that the templates produce well-typed Go.  There is no model of the Go type checker; that part of the
  property is decided by compiling generated code (the build oracle of the check) and is exploration, not proof.
-/
namespace Gs.Props.C01
open Gs Gs.Gen Gs.Names

def goKeywords : List String :=
  ["break", "case", "chan", "const", "continue", "default", "defer", "else", "fallthrough", "for", "func", "go", "goto", "if",
   "import", "interface", "map", "package", "range", "return", "select", "struct", "switch", "type", "var"]

/-- the reserved-word list of the generator is exactly the keyword list of the Go specification -/
theorem reserved_is_go_keywords :
    (∀ k ∈ goKeywords, k ∈ reservedWords) ∧ (∀ k ∈ reservedWords, k ∈ goKeywords) := by decide +kernel

theorem var_suffix_escapes : ∀ k ∈ reservedWords, k ++ "Var" ∉ reservedWords := by decide +kernel

/-- the live MangleVarName agrees with the model on every reserved word -/
theorem reservedVar_model : ∀ kv ∈ reservedVar, mangleVar kv.1 = kv.2 := by decide +kernel

theorem mangleVar_not_keyword (nm : String) : mangleVar nm ∉ goKeywords := by
  intro h
  have hr : mangleVar nm ∈ reservedWords := reserved_is_go_keywords.1 _ h
  unfold mangleVar at hr
  split at hr
  · next c => exact var_suffix_escapes nm (List.contains_iff_mem.1 c) hr
  · next c => exact c (List.contains_iff_mem.2 hr)

/-- every file-name token go/build acts on is in the generator's table -/
theorem tokens_covered : ∀ t ∈ goBuildTokens, suffixTable.contains t = true := by decide +kernel

/-- the appended word is not itself a token -/
theorem appended_is_neutral : goBuildTokens.contains appendedSuffix = false := by decide +kernel

/-- `constrained` tests the last segment only: one outside go/build's token list puts no constraint on the file -/
theorem constrained_eq_false {segs : List String} (h : ∀ l, segs.getLast? = some l → goBuildTokens.contains l = false) :
    constrained segs = false := by
  unfold constrained
  split
  · next l hl => rw [h l hl, Bool.and_false]
  · rfl

/-- no generated file is silently left out of the build, whatever the name -/
theorem file_never_excluded (segs : List String) : constrained (mangleFileSegs segs) = false := by
  apply constrained_eq_false
  intro l hl
  unfold mangleFileSegs at hl
  split at hl
  · next l' hl' =>
    split at hl
    · -- renamed: the last segment is now the appended word
      rw [List.getLast?_concat] at hl
      cases hl
      exact appended_is_neutral
    · next c =>
      -- left alone: the last segment is not in the generator's table, which covers go/build's
      rw [hl'] at hl
      cases hl
      exact Bool.eq_false_iff.2 fun ht => c (tokens_covered l (List.contains_iff_mem.1 ht))
  · next hn => rw [hn] at hl; cases hl

/-- non-vacuity: names that would be excluded are renamed, others are left alone -/
theorem file_examples :
    mangleFileSegs ["thing", "linux"] = ["thing", "linux", "swagger"] ∧ mangleFileSegs ["get", "thing", "test"] = ["get", "thing", "test", "swagger"] ∧
    mangleFileSegs ["thing"] = ["thing"] ∧ constrained ["thing", "linux"] = true ∧ constrained ["linux"] = false := by decide +kernel

theorem special_dirs_renamed :
    mangleDir "vendor" ≠ "vendor" ∧ mangleDir "internal" ≠ "internal" ∧ mangleDir "models" = "models" := by decide +kernel

/-! ### format tables -/

def isStrfmt (g : String) : Bool := g.toList.take 7 == "strfmt.".toList

/-- Both facts in one sweep over the table, each implication `isStrfmt fg.2 = true → …` written as `… ∨ isStrfmt fg.2 = false`:
    evaluation stops at the first disjunct for every strfmt type, so `isStrfmt`, which has to decode the type name (the slow
    part), is decided for the other entries only. -/
theorem strfmt_formats_known : ∀ fg ∈ formatMapping_string,
    (customFormatters.contains fg.2 = true ∧ (zeroes.lookup fg.2).isSome = true) ∨ isStrfmt fg.2 = false := by decide +kernel

theorem strfmt_formats_have_formatter :
    ∀ fg ∈ formatMapping_string, isStrfmt fg.2 = true → customFormatters.contains fg.2 = true :=
  fun fg h s => ((strfmt_formats_known fg h).resolve_right (ne_false_of_eq_true s)).1

theorem strfmt_formats_have_zero :
    ∀ fg ∈ formatMapping_string, isStrfmt fg.2 = true → (zeroes.lookup fg.2).isSome = true :=
  fun fg h s => ((strfmt_formats_known fg h).resolve_right (ne_false_of_eq_true s)).2

theorem numeric_formats_convert :
    ∀ fg ∈ formatMapping_number ++ formatMapping_integer,
      (stringConverters.lookup fg.2).isSome = true ∧ (stringFormatters.lookup fg.2).isSome = true ∧ (zeroes.lookup fg.2).isSome = true := by decide +kernel

/-- `drop 12` takes `swag.Convert` off the converter's name -/
theorem converters_formatters_paired :
    stringConverters.map (·.1) = stringFormatters.map (·.1) ∧
    (∀ kv ∈ stringConverters, stringFormatters.lookup kv.1 = some ("swag.Format" ++ String.ofList (kv.2.toList.drop 12))) := by decide +kernel

theorem base_types_have_zero :
    ∀ tg ∈ typeMapping, tg.1 ≠ "file" → (zeroes.lookup tg.2).isSome = true := by decide +kernel

end Gs.Props.C01

namespace Gs.Props.C01
open Gs.Names

/-! ### the client's private timeout field (`renameTimeout`) -/

theorem rename_sound (seen : List Nm) (fuel : Nat) (name r : Nm) (h : renameTimeout seen fuel name = some r) :
    seen.contains (lowerN r) = false := by
  induction fuel generalizing name with
  | zero =>
    simp only [renameTimeout] at h
    split at h
    · cases h
    · next hc => cases h; exact Bool.eq_false_iff.2 hc
  | succ fuel ih =>
    simp only [renameTimeout] at h
    split at h
    · split at h <;> exact ih _ h
    · next hc => cases h; exact Bool.eq_false_iff.2 hc

theorem length_lowerN (s : Nm) : (lowerN s).length = s.length := by simp [lowerN]

theorem mem_le_maxLen (seen : List Nm) (x : Nm) (h : x ∈ seen) : x.length ≤ maxLen seen := by
  induction seen with
  | nil => cases h
  | cons y r ih =>
    rcases List.mem_cons.mp h with e | h
    · exact e ▸ Nat.le_max_left _ _
    · exact Nat.le_trans (ih h) (Nat.le_max_right _ _)

theorem long_not_seen (seen : List Nm) (name : Nm) (h : name.length > maxLen seen) : seen.contains (lowerN name) = false :=
  Bool.eq_false_iff.2 fun hc => by
    have := mem_le_maxLen seen _ (List.contains_iff_mem.1 hc)
    rw [length_lowerN] at this
    exact Nat.not_le_of_gt h this

/-- every key of the fixed chain ends in 't', so a name that does not has no successor in it -/
theorem nextFixed_eq_none {s : Nm} (h : s.getLast? ≠ some 't') : nextFixed s = none := by
  have ne : ∀ k : Nm, k.getLast? = some 't' → (s = k) = False := fun k hk => eq_false fun e => h (e ▸ hk)
  -- the keys are literals: the side condition of `ne` is evaluated for each of them
  simp (disch := decide +kernel) only [nextFixed, ne, if_false]

theorem bumped_past_chain (name : Nm) : nextFixed (lowerN (name ++ ['1'])) = none :=
  nextFixed_eq_none (by simp [lowerN])

/-- past the fixed chain the name only grows, so the search stops as soon as it is longer than every parameter name -/
theorem bump_terminates (seen : List Nm) (fuel : Nat) (name : Nm) (hp : nextFixed (lowerN name) = none)
    (h : name.length + fuel > maxLen seen) : ∃ r, renameTimeout seen fuel name = some r := by
  induction fuel generalizing name with
  | zero => exact ⟨name, by simp only [renameTimeout, long_not_seen seen name h]; rfl⟩
  | succ fuel ih =>
    simp only [renameTimeout, hp]
    split
    · exact ih (name ++ ['1']) (bumped_past_chain name) (by rw [List.length_append, Nat.add_right_comm]; exact h)
    · exact ⟨name, rfl⟩

theorem chain_step (seen : List Nm) (fuel : Nat) (name nx : Nm) (hn : nextFixed (lowerN name) = some nx)
    (hnext : ∃ r, renameTimeout seen fuel nx = some r) : ∃ r, renameTimeout seen (fuel+1) name = some r := by
  simp only [renameTimeout, hn]
  split
  · exact hnext
  · exact ⟨name, rfl⟩

/-- the fixed chain from `name` ends after exactly `k` steps -/
def chainEnds : Nat → Nm → Bool
  | 0, name => (nextFixed (lowerN name)).isNone
  | k+1, name => (nextFixed (lowerN name)).any (chainEnds k)

/-- from any start name: one unit of fuel for each step of the fixed chain, then `bump_terminates` -/
theorem chain_terminates (seen : List Nm) {fuel : Nat} (hf : maxLen seen < fuel) (k : Nat) (name : Nm)
    (hk : chainEnds k name = true) : ∃ r, renameTimeout seen (fuel + k) name = some r := by
  induction k generalizing name with
  | zero => exact bump_terminates seen fuel name (Option.isNone_iff_eq_none.1 hk) (Nat.lt_of_lt_of_le hf (Nat.le_add_left _ _))
  | succ k ih =>
    obtain ⟨nx, hn, hk⟩ := (Option.any_eq_true _ _).1 hk
    exact chain_step seen (fuel + k) name nx hn (ih nx hk)

/-- for EVERY set of parameter names the search for the timeout field's name terminates (the Go recursion has no bound of
    its own) and returns a name that collides with none of them, case-insensitively -/
theorem timeout_field_fresh (seen : List Nm) :
    ∃ r, renameTimeout seen (maxLen seen + 8) "timeout".toList = some r ∧ seen.contains (lowerN r) = false := by
  -- the fixed chain from "timeout" has 6 steps; the bumping after it needs more fuel than `maxLen seen` (the statement's 8
  -- leaves one unit to spare)
  obtain ⟨r, hr⟩ := chain_terminates seen (fuel := maxLen seen + 2) (Nat.lt_add_of_pos_right (by decide)) 6 "timeout".toList
    (by decide +kernel)
  exact ⟨r, hr, rename_sound seen _ _ r hr⟩

/-- non-vacuity: parameters named timeout, requestTimeout and HTTPRequestTimeout push the field to swaggerTimeout -/
example : renameTimeout ["timeout".toList, "requesttimeout".toList, "httprequesttimeout".toList] 20 "timeout".toList = some "swaggerTimeout".toList := by decide +kernel

end Gs.Props.C01
