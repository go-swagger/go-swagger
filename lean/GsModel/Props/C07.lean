import GsModel.Order.Indep
import GsModel.Gen.MapRanges
/-
  C07 — Every command's output depends only on its inputs.   (proof for iteration order, PARTIAL for schedules)

  Go randomises the order of `range` over a map.  The census `Gen.mapRanges` (regenerated from the working tree with
  go/types on every run) lists EVERY such loop in generator/, codescan/ and the diff command together with what its body does
  with the order.  The obligations:
  * `all_ranges_discharged` — no loop of the census is `unclassified`, and none is `orderSensitive` (the list of exceptions
    the statement allows for, `knownOrderSensitive`, is empty); `census_nonempty`: the census is not trivially small and has
    a loop from a file of each of the three packages;
  * one generic theorem per class, for ALL maps and ALL visiting orders (permutations) — nothing in Lean ties a class to its
    theorem, and the classes `firstError`, `independentFiles`, `setSemantics`, `debugOutput` have none:
      sortedAfter       `Order.collect_sort_indep`, `Order.keys_sorted_indep`, `sort_by_key_indep`
      mapWrite          `Order.writeAll_indep`
      commutative       `Order.count_indep`
      existential       `Order.any_indep`
      uniqueMatch       `find_unique_indep`
      diffAccumulate    `diffs_sorted_indep` (the reports sort the differences before printing)
  The classification of a loop is syntactic (harness/internal/census) or hand-made and tied to the hash of the loop body;
  it is validated — not proved — by running every command several times in fresh processes on inputs with many entries in
  every map and comparing outputs byte for byte.
  NOT covered by any theorem: data races between concurrent library calls (runtime behaviour; the check runs concurrent
  generations under the race detector instead).
-/
namespace Gs.Props.C07
open Gs Gs.Gen Gs.Order List

/-- keys of the loops that are known to be order-sensitive: there is none -/
def knownOrderSensitive : List String := []

def discharged (r : MapRange) : Bool :=
  match r.cls with
  | .unclassified => false
  | .orderSensitive => knownOrderSensitive.contains r.key
  | _ => true

theorem all_ranges_discharged : ∀ r ∈ mapRanges, discharged r = true := by decide +kernel

/-- the census sees the code: it is not trivially small and has a loop from a file of each of the three packages -/
theorem census_nonempty :
    mapRanges.length ≥ 60 ∧ (mapRanges.any (fun r => r.file = "support.go")) = true ∧
    (mapRanges.any (fun r => r.file = "spec_analyser.go")) = true ∧ (mapRanges.any (fun r => r.file = "parser.go")) = true := by decide +kernel

/-- sort.Sort by a string key over items with distinct keys (GenOperations by name, GenDefinitions by name, …) -/
theorem sort_by_key_indep {α} (key : α → String) {l₁ l₂ : List α} (h : l₁ ~ l₂)
    (distinct : ∀ a ∈ l₁, ∀ b ∈ l₁, key a = key b → a = b) :
    mergeSort l₁ (fun a b => leStr (key a) (key b)) = mergeSort l₂ (fun a b => leStr (key a) (key b)) :=
  sort_indep _ (fun a b c => leStr_trans (key a) (key b) (key c)) (fun a b => leStr_total (key a) (key b)) h
    (fun a b ha hb hab hba => distinct a ha b hb (leStr_anti _ _ hab hba))

/-- lookup by a predicate that at most one entry satisfies -/
theorem find_unique_indep {α} (p : α → Bool) {l₁ l₂ : List α} (h : l₁ ~ l₂)
    (uniq : ∀ a ∈ l₁, ∀ b ∈ l₁, p a = true → p b = true → a = b) : l₁.find? p = l₂.find? p := by
  cases h1 : l₁.find? p with
  | none => exact (find?_eq_none.2 fun x hx => find?_eq_none.1 h1 x (h.mem_iff.2 hx)).symm
  | some a =>
    have ham := mem_of_find?_eq_some h1
    cases h2 : l₂.find? p with
    | none => exact absurd (find?_some h1) (find?_eq_none.1 h2 a (h.mem_iff.1 ham))
    | some b => rw [uniq a ham b (h.mem_iff.2 (mem_of_find?_eq_some h2)) (find?_some h1) (find?_some h2)]

/-- the reports: differences are sorted before printing, so the order they were appended in is not observable there -/
theorem diffs_sorted_indep {l₁ l₂ : List String} (h : l₁ ~ l₂) : mergeSort l₁ leStr = mergeSort l₂ leStr :=
  sort_indep leStr leStr_trans leStr_total h (fun a b _ _ => leStr_anti a b)

/-- non-vacuity: two visiting orders of one map -/
example : mergeSort ([("b", 1), ("a", 2), ("c", 3)].map (·.1)) leStr = mergeSort ([("c", 3), ("b", 1), ("a", 2)].map (·.1)) leStr :=
  keys_sorted_indep (by decide)

end Gs.Props.C07
