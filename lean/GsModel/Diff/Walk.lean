import GsModel.Diff.Steps
import GsModel.Diff.Maps
import GsModel.Diff.Depth
/-
  One walk through the analyser, function by function, for the three facts every pass shares (`Outcome.Meets`):
    * the state only grows — differences are appended, visited keys are added (`St.Le`);
    * a panic is reached only on an invalid document (assumptions under `V →`);
    * the fuel runs out only on a document deeper than the fuel (assumptions under `F →`).
  Totality (`V := True`), termination without recursive definitions (`F := True`) and monotonicity of the report
  (`V := F := False`) are read off at the end.
-/
namespace Gs.Diff
open Gs Gs.Gen Gs.Outcome

def Sub (st st' : St) : Prop := ∀ d ∈ st.diffs, d ∈ st'.diffs

def VisSub (st st' : St) : Prop := ∀ k, k ∈ st.visited → k ∈ st'.visited

structure St.Le (st st' : St) : Prop where
  sub : Sub st st'
  vis : VisSub st st'

theorem St.Le.refl (st : St) : St.Le st st := ⟨fun _ h => h, fun _ h => h⟩

theorem St.Le.trans {a b c : St} (h1 : St.Le a b) (h2 : St.Le b c) : St.Le a c :=
  ⟨fun d h => h2.sub d (h1.sub d h), fun k h => h2.vis k (h1.vis k h)⟩

theorem addDiff_le {st : St} {loc : Loc} {c : Code} {info : String} : St.Le st (st.addDiff loc c info) :=
  ⟨fun _ hd => List.mem_append_left _ hd, fun _ h => h⟩

theorem addTypeDiff_le {st : St} {loc : Loc} {d : TDiff} : St.Le st (st.addTypeDiff loc d) := addDiff_le

theorem St.Le.ite {c : Prop} [Decidable c] {a x y : St} (hx : St.Le a x) (hy : St.Le a y) : St.Le a (if c then x else y) := by
  split <;> assumption

theorem foldl_le {α} {f : St → α → St} {l : List α} {st : St} (hf : ∀ b a, St.Le b (f b a)) : St.Le st (l.foldl f st) :=
  foldl_inv (St.Le st) f l st (St.Le.refl _) (fun b a _ hb => hb.trans (hf b a))

theorem addDiffs_le {st : St} {loc : Loc} {ds : List TDiff} : St.Le st (st.addDiffs loc ds) :=
  foldl_le (fun _ _ => .ite (.refl _) addTypeDiff_le)

theorem compareDescripton_le {st : St} {loc : Loc} {d1 d2 : String} : St.Le st (st.compareDescripton loc d1 d2) :=
  .ite addDiff_le (.refl _)

theorem markRefs_le {st : St} {l : List String} : St.Le st (st.markRefs l) := ⟨fun _ h => h, fun _ h => h⟩

theorem visit_le (st : St) (key : String) : St.Le st { st with visited := st.visited ++ [key] } :=
  ⟨fun _ h => h, fun _ h => List.mem_append_left _ h⟩

/-- one equation for a name that is found and one that is not: `markRefs []` leaves the state as it is -/
theorem schemaFromRef_eq (st : St) (d : Defs) (r : String) :
    schemaFromRef st d r = (lookup d r, st.markRefs ((lookup d r).toList.map fun _ => r)) := by
  unfold schemaFromRef
  cases lookup d r <;> rfl

section
variable {V F : Prop}

theorem _root_.Gs.Outcome.Meets.le_trans {a b : St} {x : Outcome St} (h : St.Le a b) (hx : Meets V F (St.Le b) x) : Meets V F (St.Le a) x :=
  hx.mono (fun _ h' => h.trans h')

theorem _root_.Gs.Outcome.Meets.le_bind {st : St} {x : Outcome St} {f : St → Outcome St}
    (hx : Meets V F (St.Le st) x) (hf : ∀ st', Meets V F (St.Le st') (f st')) : Meets V F (St.Le st) (x.bind f) :=
  hx.bind (fun st' h => (hf st').le_trans h)

theorem foldlM_le {α} (f : St → α → Outcome St) (l : List α) (st : St)
    (hf : ∀ b a, a ∈ l → Meets V F (St.Le b) (f b a)) : Meets V F (St.Le st) (foldlM f st l) :=
  foldlM_meets (St.Le st) f l st (St.Le.refl _) (fun b a ha hb => (hf b a ha).le_trans hb)

/-- a schema of a document with definitions `d`, as the walk assumes it: valid if `V`, at most `k` levels deep
    (`$ref`s followed) if `F` -/
structure Adm (V F : Prop) (d : Defs) (k : Nat) (s : Schema) : Prop where
  valid : V → ValidS d s
  fits : F → fitsD d k s = true

theorem Adm.le {d : Defs} {k n : Nat} {s : Schema} (h : Adm V F d k s) (hkn : k ≤ n) : Adm V F d n s :=
  ⟨h.valid, fun f => fitsD_le d s (h.fits f) hkn⟩

/-- `k - 1` and not `k = m+1 ⊢ m`: when `F` is not in force `k` is arbitrary (0 in `Spec.Valid`), and the callers pass the
    bound down without a case split on it -/
theorem Adm.child {d : Defs} {k : Nat} {s c : Schema} (h : Adm V F d k s) (hc : c ∈ s.children) : Adm V F d (k-1) c :=
  ⟨fun v => (h.valid v).child hc, fun f => by
    obtain ⟨m, rfl⟩ := fitsD_pos (h.fits f)
    exact fitsD_child (h.fits f) hc⟩

/-- the target of a `$ref` (it is one level less deep, which is not needed) -/
theorem Adm.target {d : Defs} {k : Nat} {s t : Schema} (h : Adm V F d k s) (hd : V → ValidDefs d) (hr : s.ref ≠ "")
    (ht : lookup d s.ref = some t) : Adm V F d k t :=
  ⟨fun v => (hd v).lookup ht, fun f => by
    obtain ⟨m, rfl⟩ := fitsD_pos (h.fits f)
    exact fitsD_le d t (fitsD_target (h.fits f) hr ht) (Nat.le_succ m)⟩

theorem Adm.fitsL {d : Defs} {k n : Nat} {s : Schema} (h : Adm V F d k s) (hk : F → k ≤ n) (f : F) : Gs.Diff.fitsL n s = true :=
  fitsL_le s (fitsL_of_fitsD (h.fits f)) (hk f)

theorem Adm.fitsP {d : Defs} {k n : Nat} {s : Schema} (h : Adm V F d k s) (hk : F → k ≤ n) (f : F) : Gs.Diff.fitsP d n s = true :=
  fitsP_le d s (fitsP_of_fitsD (h.fits f)) (hk f)

theorem typeOfSimple_meets (c : List Simple) (h : V → chainOk c = true) : Meets V F (fun _ => True) (typeOfSimple c) := by
  induction c with
  | nil => exact fun v => by simpa [chainOk] using h v
  | cons s rest ih =>
    unfold typeOfSimple
    refine meets_ite (fun e => ?_) (fun _ => trivial)
    exact (ih (fun v => by simpa [chainOk, e] using h v)).andThen (fun _ => trivial)

/-- `getTypeFromSchema` is `getTypeFromSchemaProps` without the format -/
theorem typeOfSchema_eq (n : Nat) (s : Schema) : typeOfSchema n s = typeOfProps (n+1) { s with format := "" } := by
  rw [typeOfSchema, typeOfProps]
  cases s.type <;> simp [primitiveTypeString]

theorem typeOfProps_meets (n : Nat) (s : Schema) (h : F → fitsL n s = true) : Meets V F (fun _ => True) (typeOfProps n s) := by
  induction n generalizing s with
  | zero => exact fun f => by simpa [fitsL] using h f
  | succ n ih =>
    rw [typeOfProps]
    refine meets_ite (fun _ => trivial) (fun _ => ?_)
    split
    · trivial
    · refine meets_ite (fun _ => ?_) (fun _ => trivial)
      refine meets_ite (fun _ => trivial) (fun _ => ?_)
      split
      · trivial
      · -- the items schema is one level less deep
        rename_i i hi
        exact (ih i (fun f => fitsL_child (h f) (Schema.item_mem_children hi))).andThen (fun _ => trivial)

theorem typeOfSchema_meets (n : Nat) (s : Schema) (h : F → fitsL (n+1) s = true) : Meets V F (fun _ => True) (typeOfSchema n s) := by
  rw [typeOfSchema_eq]
  -- the depth measure does not look at the format
  exact typeOfProps_meets (n+1) _ h

theorem typeStrOfSchema_meets (n : Nat) (s : Schema) (h : F → fitsL (n+1) s = true) :
    Meets V F (fun _ => True) (typeStrOfSchema n s) :=
  (typeOfSchema_meets n s h).andThen (fun _ => trivial)

theorem typeStrOfProps_meets (n : Nat) (s : Schema) (h : F → fitsL n s = true) : Meets V F (fun _ => True) (typeStrOfProps n s) :=
  (typeOfProps_meets n s h).andThen (fun _ => trivial)

theorem nodeOfProps_meets (n : Nat) (name : String) (s : Schema) (h : F → fitsL n s = true) :
    Meets V F (fun _ => True) (nodeOfProps n name s) :=
  (typeOfProps_meets n s h).andThen (fun _ => trivial)

theorem typeStrOfSimple_meets (c : List Simple) (h : V → chainOk c = true) : Meets V F (fun _ => True) (typeStrOfSimple c) :=
  (typeOfSimple_meets c h).andThen (fun _ => trivial)

theorem nodeOfSimple_meets (name : String) (c : List Simple) (h : V → chainOk c = true) :
    Meets V F (fun _ => True) (nodeOfSimple name c) :=
  (typeOfSimple_meets c h).andThen (fun _ => trivial)

theorem checkRefChangeProps_meets (n : Nat) (t1 t2 : Schema) (h1 : F → fitsL n t1 = true) (h2 : F → fitsL n t2 = true) :
    Meets V F (fun _ => True) (checkRefChangeProps n t1 t2) := by
  have ts : ∀ (c : Code), Meets V F (fun _ => True) ((typeStrOfProps n t1).bind fun f => (typeStrOfProps n t2).bind fun t =>
      Outcome.ok [({ change := c, fromT := f, toT := t } : TDiff)]) := fun _ =>
    (typeStrOfProps_meets n t1 h1).andThen (fun _ => (typeStrOfProps_meets n t2 h2).andThen (fun _ => trivial))
  unfold checkRefChangeProps
  exact meets_ite (fun _ => meets_ite (fun _ => ts _) (fun _ => trivial)) (fun _ => meets_ite (fun _ => ts _) (fun _ => trivial))

theorem checkRefChangeSchema_eq (n : Nat) (t1 t2 : Schema) :
    checkRefChangeSchema n t1 t2 = checkRefChangeProps (n+1) { t1 with format := "" } { t2 with format := "" } := by
  simp only [checkRefChangeSchema, checkRefChangeProps, typeStrOfSchema, typeStrOfProps, typeOfSchema_eq]

theorem checkRefChangeSchema_meets (n : Nat) (t1 t2 : Schema) (h1 : F → fitsL (n+1) t1 = true) (h2 : F → fitsL (n+1) t2 = true) :
    Meets V F (fun _ => True) (checkRefChangeSchema n t1 t2) := by
  rw [checkRefChangeSchema_eq]
  exact checkRefChangeProps_meets (n+1) _ _ h1 h2

theorem compareProps_meets (n : Nat) (t1 t2 : Schema) (h1 : F → fitsL n t1 = true) (h2 : F → fitsL n t2 = true) :
    Meets V F (fun _ => True) (compareProps n t1 t2) := by
  unfold compareProps
  refine meets_ite (fun _ => ?_) (fun _ => ?_)
  · exact (typeOfProps_meets n t1 h1).andThen (fun _ => (typeOfProps_meets n t2 h2).andThen (fun _ => trivial))
  refine meets_ite (fun _ => trivial) (fun _ => ?_)
  refine (checkRefChangeProps_meets n t1 t2 h1 h2).andThen (fun rd => ?_)
  refine meets_ite (fun _ => trivial) (fun _ => ?_)
  refine meets_ite (fun _ => trivial) (fun _ => ?_)
  exact meets_ite (fun _ => trivial) (fun _ => trivial)

theorem ifaceNe_meets (a b : Option JVal) : Meets V F (fun _ => True) (ifaceNe a b) := by
  cases a <;> cases b <;> trivial

theorem compareSimpleSchema_meets (loc : Loc) (c1 c2 : List Simple) (st : St) (h : V → chainOk c1 = true ∧ chainOk c2 = true) :
    Meets V F (St.Le st) (compareSimpleSchema loc c1 c2 st) := by
  induction c1 generalizing c2 st with
  | nil => exact fun v => by simpa [chainOk] using (h v).1
  | cons s1 r1 ih =>
    cases c2 with
    | nil => exact fun v => by simpa [chainOk] using (h v).2
    | cons s2 r2 =>
      unfold compareSimpleSchema
      -- every entry this level writes: the two type strings, then one `addDiffs`
      have ts : ∀ (c : Code) (st : St), Meets V F (St.Le st)
          ((typeStrOfSimple (s1 :: r1)).bind fun f => (typeStrOfSimple (s2 :: r2)).bind fun t =>
            Outcome.ok (st.addDiffs loc [{ change := c, fromT := f, toT := t }])) := fun c st =>
        (typeStrOfSimple_meets _ (fun v => (h v).1)).andThen
          (fun _ => (typeStrOfSimple_meets _ (fun v => (h v).2)).andThen (fun _ => addDiffs_le))
      have opt : ∀ {p : Prop} [Decidable p] (c : Code) (st : St),
          Meets V F (St.Le st) (if p then _ else Outcome.ok st) := fun c st => meets_ite (fun _ => ts c st) (fun _ => St.Le.refl _)
      refine Meets.le_bind (meets_ite (fun _ => ts _ _) (fun _ => opt _ _)) (fun st => ?_)
      refine Meets.le_bind (opt _ _) (fun st => ?_)
      refine (ifaceNe_meets _ _).andThen (fun ne => Meets.le_bind (opt _ _) (fun st => ?_))
      refine (ifaceNe_meets _ _).andThen (fun ne => Meets.le_bind (opt _ _) (fun st => ?_))
      refine meets_ite (fun e => ?_) (fun _ => St.Le.refl _)
      simp only [Bool.and_eq_true, decide_eq_true_eq] at e
      exact ih r2 st (fun v => ⟨chainOk_tail (h v).1 e.1, chainOk_tail (h v).2 e.2⟩)

/-- `propertiesFor` for a hereditary assumption: `I` is assumed of the schema and inherited by the targets of `$ref`s and by
    allOf members, `R` follows for every property schema that is returned.  It panics only on a `$ref` that does not resolve
    (`hv`); its fuel is spent on the allOf ancestry (`fitsP`). -/
theorem propertiesFor_meets (d : Defs) (I R : Schema → Prop)
    (hprop : ∀ {s kv}, I s → kv ∈ s.props → R kv.2) (hallOf : ∀ {s a}, I s → a ∈ s.allOf → I a)
    (href : ∀ {s t}, I s → s.ref ≠ "" → lookup d s.ref = some t → I t)
    (hv : V → ∀ {s}, I s → s.ref ≠ "" → ∃ t, lookup d s.ref = some t)
    (n : Nat) (s : Schema) (hs : I s) (hf : F → fitsP d n s = true) :
    Meets V F (fun r => ∀ kv ∈ r.1, R kv.2.schema) (propertiesFor d n s) := by
  induction n generalizing s with
  | zero => exact fun f => by simpa [fitsP] using hf f
  | succ n ih =>
    unfold propertiesFor
    -- the schema whose own properties and allOf members are read: `s` itself or the target of its `$ref`
    refine Meets.bind (P := fun (r : Schema × List String) => I r.1 ∧ derefP d s = some r.1) ?_ (fun r hr => ?_)
    · refine meets_ite (fun hne => ?_) (fun he => ⟨hs, derefP_noref (Decidable.of_not_not he)⟩)
      cases ht : lookup d s.ref with
      | none =>
        intro v
        obtain ⟨t, ht'⟩ := hv v hs hne
        rw [ht] at ht'
        cases ht'
      | some t => exact ⟨href hs hne ht, (derefP_ref hne).trans ht⟩
    · refine foldlM_meets (fun (acc : List (String × PropDefn) × List String) => ∀ kv ∈ acc.1, R kv.2.schema) _ _ _ ?_ ?_
      · dsimp only
        split
        · exact foldl_upsert_all (fun (p : PropDefn) => R p.schema)
            (fun (kv : String × Schema) => (kv.1, ({ schema := kv.2, required := r.1.required.contains kv.1 } : PropDefn)))
            _ [] (fun _ h => nomatch h) (fun kv hkv => hprop hr.1 hkv)
        · exact fun _ h => nomatch h
      · intro acc a ha hacc
        refine (ih a (hallOf hr.1 ha) (fun f => ?_)).bind (fun m hm => ?_)
        · have hk := hf f
          rw [fitsP, hr.2] at hk
          exact List.all_eq_true.mp hk a ha
        · exact foldl_upsert_all (fun (p : PropDefn) => R p.schema) (fun (kv : String × PropDefn) => (kv.1, kv.2))
            _ _ hacc (fun kv hkv => hm kv hkv)

theorem addNode_ne_nil {l : Loc} {n : NodeSeg} : (l.addNode n).node ≠ [] := by
  simp [Loc.addNode]

theorem schemaLocationKey_meets (l : Loc) (h : V → l.node ≠ []) : Meets V F (fun _ => True) (schemaLocationKey l) := by
  unfold schemaLocationKey
  split
  · exact fun v => h v ‹_›
  · split <;> trivial

theorem addChildDiffNode_meets (n : Nat) (l : Loc) (name : String) (s : Schema) (h : F → fitsL n s = true) :
    Meets V F (fun l' => l'.node ≠ []) (addChildDiffNode n l name s) :=
  (nodeOfProps_meets n name s h).andThen (fun _ => addNode_ne_nil)

theorem Adm.deref {d : Defs} {k : Nat} {s : Schema} (h : Adm V F d k s) (hd : V → ValidDefs d) :
    (V → (derefP d s).isSome = true) ∧ ∀ t, derefP d s = some t → Adm V F d k t := by
  by_cases hr : s.ref = ""
  · rw [derefP_noref hr]
    exact ⟨fun _ => rfl, fun t e => Option.some.inj e ▸ h⟩
  · rw [derefP_ref hr]
    refine ⟨fun v => ?_, fun t ht => h.target hd hr ht⟩
    obtain ⟨t, ht⟩ := (h.valid v).ref hr
    rw [ht]
    rfl

/-- what `resolveBoth` returns unless the location was visited before: each side with its `$ref` looked up, in a state
    that has grown and records the same differences -/
def Resolved (cx : Ctx) (s1 s2 : Schema) (st : St) : Option (Option Schema × Option Schema × St) → Prop
  | none => True
  | some r => r.1 = derefP cx.defs1 s1 ∧ r.2.1 = derefP cx.defs2 s2 ∧ St.Le st r.2.2 ∧ r.2.2.diffs = st.diffs

theorem resolveBoth_meets (cx : Ctx) (loc : Loc) (hl : V → loc.node ≠ []) (s1 s2 : Schema) (st : St) :
    Meets V F (Resolved cx s1 s2 st) (resolveBoth cx loc s1 s2 st) := by
  unfold resolveBoth
  simp only [schemaFromRef_eq]
  refine Meets.bind (P := fun r => ∀ p, r = some p → p.1 = derefP cx.defs1 s1 ∧ St.Le st p.2 ∧ p.2.diffs = st.diffs) ?_ ?_
  · refine meets_ite (fun h1 => ?_) (fun h1 => ?_)
    · refine (schemaLocationKey_meets loc hl).andThen (fun key => meets_ite (fun _ => nofun) (fun _ => ?_))
      rintro _ ⟨⟩
      exact ⟨(derefP_ref h1).symm, (visit_le st key).trans markRefs_le, rfl⟩
    · rintro _ ⟨⟩
      exact ⟨(derefP_noref (Decidable.of_not_not h1)).symm, St.Le.refl _, rfl⟩
  · intro r hr
    cases r with
    | none => trivial
    | some p =>
      obtain ⟨e1, le1, d1⟩ := hr p rfl
      refine ⟨e1, ?_⟩
      by_cases h2 : s2.ref ≠ ""
      · simp only [if_pos h2]
        exact ⟨(derefP_ref h2).symm, le1.trans markRefs_le, d1⟩
      · simp only [if_neg h2]
        exact ⟨(derefP_noref (Decidable.of_not_not h2)).symm, le1, d1⟩

/-- a comparator that meets `V` and `F` on admissible schemas at a real location, and lets the state grow -/
abbrev CmpMeets (V F : Prop) (cx : Ctx) (k : Nat) (cmp : Cmp) : Prop :=
  ∀ loc s1 s2 st, (V → loc.node ≠ []) → Adm V F cx.defs1 k s1 → Adm V F cx.defs2 k s2 →
    Meets V F (St.Le st) (cmp loc (some s1) (some s2) st)

theorem compareItems_meets (cx : Ctx) (cmp : Cmp) (k n : Nat) (hc : CmpMeets V F cx (k-1) cmp) (hk : F → k ≤ n + 1)
    (loc : Loc) (hl : V → loc.node ≠ []) (t1 t2 : Schema) (a1 : Adm V F cx.defs1 k t1) (a2 : Adm V F cx.defs2 k t2) (st : St) :
    Meets V F (St.Le st) (compareItems cmp n loc t1 t2 st) := by
  unfold compareItems
  refine meets_ite (fun _ => ?_) (fun _ => St.Le.refl _)
  refine meets_ite (fun _ => ?_) (fun _ => ?_)
  · refine meets_ite (fun h => ?_) (fun _ => St.Le.refl _)
    simp only [Bool.and_eq_true] at h
    obtain ⟨i1, e1⟩ := Option.isSome_iff_exists.mp h.1.1.2
    obtain ⟨i2, e2⟩ := Option.isSome_iff_exists.mp h.2
    rw [e1, e2]
    exact hc loc i1 i2 st hl (a1.child (Schema.item_mem_children e1)) (a2.child (Schema.item_mem_children e2))
  · exact (typeStrOfSchema_meets n t1 (a1.fitsL hk)).andThen
      (fun _ => (typeStrOfSchema_meets n t2 (a2.fitsL hk)).andThen (fun _ => addDiffs_le))

theorem propStep_meets (cx : Ctx) (cmp : Cmp) (k n : Nat) (hc : CmpMeets V F cx k cmp) (hk : F → k ≤ n) (loc : Loc)
    (props2 : List (String × PropDefn)) (hp2 : ∀ kv ∈ props2, Adm V F cx.defs2 k kv.2.schema)
    (acc : St × List (Loc × Code)) (kv : String × PropDefn) (hkv : Adm V F cx.defs1 k kv.2.schema) :
    Meets V F (fun (r : St × List (Loc × Code)) => St.Le acc.1 r.1) (propStep cmp n loc props2 acc kv) := by
  unfold propStep
  refine (addChildDiffNode_meets n loc kv.1 kv.2.schema (hkv.fitsL hk)).bind (fun childLoc hcl => ?_)
  split
  · rename_i p2 hl2
    exact (hc childLoc _ _ acc.1 (fun _ => hcl) hkv (hp2 (kv.1, p2) (lookup_mem _ _ _ hl2))).bind (fun _ h => h)
  · exact St.Le.refl _

theorem addedStep_meets (n : Nat) (loc : Loc) (t1 : Schema) (props2 : List (String × PropDefn))
    (acc : List (Loc × Code)) (kv : String × Schema) (h : F → fitsL n kv.2 = true) :
    Meets V F (fun _ => True) (addedStep n loc t1 props2 acc kv) := by
  unfold addedStep
  refine meets_ite (fun _ => trivial) (fun _ => ?_)
  exact (addChildDiffNode_meets n loc kv.1 kv.2 h).bind (fun _ _ => trivial)

theorem propertiesFor_adm (d : Defs) (hd : V → ValidDefs d) (n k : Nat) (s : Schema) (a : Adm V F d k s) (hk : F → k ≤ n) :
    Meets V F (fun r => ∀ kv ∈ r.1, Adm V F d (k-1) kv.2.schema) (propertiesFor d n s) :=
  propertiesFor_meets d (Adm V F d k) (Adm V F d (k-1))
    (fun h hkv => h.child (Schema.prop_mem_children hkv))
    (fun h ha => (h.child (Schema.allOf_mem_children ha)).le (Nat.sub_le _ _))
    (fun h => h.target hd)
    (fun v _ h hr => (h.valid v).ref hr) n s a (a.fitsP hk)

theorem compareProperties_meets (cx : Ctx) (h1 : V → ValidDefs cx.defs1) (h2 : V → ValidDefs cx.defs2) (cmp : Cmp) (k n : Nat)
    (hc : CmpMeets V F cx (k-1) cmp) (hk : F → k ≤ n) (loc : Loc) (t1 t2 : Schema)
    (a1 : Adm V F cx.defs1 k t1) (a2 : Adm V F cx.defs2 k t2) (st : St) :
    Meets V F (St.Le st) (compareProperties cx cmp n loc t1 t2 st) := by
  have hk' : F → k - 1 ≤ n := fun f => Nat.le_trans (Nat.sub_le _ _) (hk f)
  unfold compareProperties
  refine meets_ite (fun _ => St.Le.refl _) (fun _ => ?_)
  refine (propertiesFor_adm cx.defs1 h1 n k t1 a1 hk).bind (fun pr1 hpr1 => ?_)
  refine (propertiesFor_adm cx.defs2 h2 n k t2 a2 hk).bind (fun pr2 hpr2 => ?_)
  refine Meets.bind (P := fun (r : St × List (Loc × Code)) => St.Le st r.1) ?_ (fun r hr => ?_)
  · refine foldlM_meets (fun (r : St × List (Loc × Code)) => St.Le st r.1) _ _ _ markRefs_le ?_
    intro acc kv hkv hacc
    exact (propStep_meets cx cmp (k-1) n hc hk' loc pr2.1 hpr2 acc kv (hpr1 kv (it_mem.mp hkv))).mono
      (fun _ h => hacc.trans h)
  · refine Meets.andThen ?_ (fun pd => hr.trans (foldl_le (fun _ _ => addDiff_le)))
    refine foldlM_meets (fun _ => True) _ _ _ trivial ?_
    intro acc kv hkv _
    have hmem := it_mem.mp hkv
    split at hmem
    · exact addedStep_meets n loc t1 pr2.1 acc kv ((a2.child (Schema.prop_mem_children hmem)).fitsL hk')
    · cases hmem

/-- **compareSchema**, by induction on the fuel, i.e. at every depth, through `$ref` cycles, allOf, items and properties:
    with any bound `k` below the fuel on the depth of the two schemas. -/
theorem compareSchema_meets (cx : Ctx) (h1 : V → ValidDefs cx.defs1) (h2 : V → ValidDefs cx.defs2) (n k : Nat) (hk : F → k < n) :
    CmpMeets V F cx k (compareSchema cx n) := by
  induction n generalizing k with
  | zero => exact fun _ _ _ _ _ _ _ f => absurd (hk f) (Nat.not_lt_zero _)
  | succ n ih =>
    intro loc s1 s2 st hl a1 a2
    have hk' : F → k ≤ n := fun f => Nat.le_of_lt_succ (hk f)
    have hk'' : F → k ≤ n + 1 := fun f => Nat.le_of_lt (hk f)
    unfold compareSchema
    refine (checkRefChangeSchema_meets n s1 s2 (a1.fitsL hk'') (a2.fitsL hk'')).andThen (fun refDiffs => ?_)
    refine meets_ite (fun _ => ?_) (fun _ => ?_)
    · exact foldl_le (fun _ _ => addTypeDiff_le)
    refine (resolveBoth_meets cx loc hl s1 s2 st).bind ?_
    intro r hr
    match r, hr with
    | none, _ => exact St.Le.refl _
    -- a side that resolved to nothing: impossible under `V` (`Adm.deref`)
    | some (none, _, _), h => exact fun v => by simpa [← h.1] using (a1.deref h1).1 v
    | some (some t1, none, _), h => exact fun v => by simpa [← h.2.1] using (a2.deref h2).1 v
    | some (some t1, some t2, st'), ⟨e1, e2, le, _⟩ =>
      have b1 := (a1.deref h1).2 t1 e1.symm
      have b2 := (a2.deref h2).2 t2 e2.symm
      refine (compareProps_meets n t1 t2 (b1.fitsL hk') (b2.fitsL hk')).andThen (fun typeDiffs => ?_)
      have le' : St.Le st (st'.compareDescripton loc t1.desc t2.desc) := le.trans compareDescripton_le
      refine meets_ite (fun _ => le'.trans addDiffs_le) (fun _ => ?_)
      -- below, the schemas are one level less deep (`fitsD` is false at depth 0, so `k - 1 < n` under `F`)
      have ih := ih (k-1) (fun f => by
        obtain ⟨m, rfl⟩ := fitsD_pos (a1.fits f)
        exact hk' f)
      refine Meets.le_trans le' (Meets.le_bind (compareItems_meets cx _ k n ih hk'' loc hl t1 t2 b1 b2 _) (fun st'' => ?_))
      exact compareProperties_meets cx h1 h2 _ k n ih hk' loc t1 t2 b1 b2 st''

/-- a parameter as the walk assumes it: if `V`, every array level of its own type has a level below it; its body schema is
    admissible -/
structure ParamAdm (V F : Prop) (d : Defs) (k : Nat) (p : Param) : Prop where
  chain : V → chainOk p.chain = true
  schema : ∀ {sc}, p.schema = some sc → Adm V F d k sc

structure RespAdm (V F : Prop) (d : Defs) (k : Nat) (r : Response) : Prop where
  headers : V → ∀ h ∈ r.headers, chainOk h.chain = true
  schema : ∀ {sc}, r.schema = some sc → Adm V F d k sc

structure UMAdm (V F : Prop) (d : Defs) (k : Nat) (u : UM) : Prop where
  item : ∀ p ∈ u.item.params, ParamAdm V F d k p
  op : ∀ p ∈ u.op.params, ParamAdm V F d k p
  response : ∀ {r}, r ∈ u.op.responses → RespAdm V F d k r

/-- a document: its definitions are valid if `V` and at most `k` levels deep if `F`; its endpoints -/
structure Spec.Adm (V F : Prop) (k : Nat) (s : Spec) : Prop where
  defs : V → ValidDefs s.defs
  fits : F → ∀ kv ∈ s.defs, fitsD s.defs k kv.2 = true
  um : ∀ u ∈ getURLMethodsFor s, UMAdm V F s.defs k u

theorem UMAdm.params {d : Defs} {k : Nat} {u : UM} (h : UMAdm V F d k u) (loc : String) :
    ∀ kv ∈ getParams u.item.params u.op.params loc, ParamAdm V F d k kv.2 :=
  getParams_all (ParamAdm V F d k) _ _ loc h.item h.op

/-- the two computable checks give the assumptions of the walk: validity to every depth those under `V`, depth `k` those
    under `F` -/
theorem adm_of_checks (s : Spec) (k : Nat) (hv : V → ∀ j, s.validB j = true) (hf : F → s.fitsB k = true) : s.Adm V F k := by
  simp only [Spec.validB, Spec.fitsB, Param.okB, Response.okB, Bool.and_eq_true, List.all_eq_true, List.mem_append] at hv hf
  -- `validB`: `.1` the definitions, `.2 u hu` the endpoint `u`, of which `.1.1` the path-level parameters, `.1.2` the operation's,
  -- `.2` the responses; of a parameter or response `.1` the chains, `.2` the body schema.  `fitsB`: `.1` the definitions,
  -- `.2 u hu` with `.1` the parameters of both levels (`.inl` / `.inr`) and `.2` the responses.
  -- a check `g` passed by an optional schema
  have opt : ∀ {o : Option Schema} {sc : Schema} (g : Schema → Bool), o = some sc →
      (match o with | none => true | some sc => g sc) = true → g sc = true := by
    rintro _ _ g rfl h
    exact h
  refine ⟨fun v kv hkv j => (hv v j).1 kv hkv, fun f => (hf f).1, fun u hu => ⟨fun p hp => ?_, fun p hp => ?_, fun {r} hr => ?_⟩⟩
  · exact ⟨fun v => (((hv v 0).2 u hu).1.1 p hp).1, fun e =>
      ⟨fun v j => opt _ e (((hv v j).2 u hu).1.1 p hp).2, fun f => opt _ e (((hf f).2 u hu).1 p (.inl hp))⟩⟩
  · exact ⟨fun v => (((hv v 0).2 u hu).1.2 p hp).1, fun e =>
      ⟨fun v j => opt _ e (((hv v j).2 u hu).1.2 p hp).2, fun f => opt _ e (((hf f).2 u hu).1 p (.inr hp))⟩⟩
  · exact ⟨fun v => (((hv v 0).2 u hu).2 r hr).1, fun e =>
      ⟨fun v j => opt _ e (((hv v j).2 u hu).2 r hr).2, fun f => opt _ e (((hf f).2 u hu).2 r hr)⟩⟩

/-- the standing assumptions of the passes: both sets of definitions are valid if `V`; if `F`, they are at most `k` levels
    deep, and `k` — which will bound the depth of every schema of the two documents — lies below the fuel `n`, which is at
    least 2 (the schema made of a parameter's or a header's own type, `forChain`, is two levels deep) -/
structure Env (V F : Prop) (cx : Ctx) (n k : Nat) : Prop where
  defs1 : V → ValidDefs cx.defs1
  defs2 : V → ValidDefs cx.defs2
  fits1 : F → ∀ kv ∈ cx.defs1, fitsD cx.defs1 k kv.2 = true
  fits2 : F → ∀ kv ∈ cx.defs2, fitsD cx.defs2 k kv.2 = true
  lt : F → k < n
  two : F → 2 ≤ n

variable {cx : Ctx} {n k : Nat}

theorem Env.le (e : Env V F cx n k) (f : F) : k ≤ n := Nat.le_of_lt (e.lt f)

theorem Env.compareSchema (e : Env V F cx n k) : CmpMeets V F cx k (compareSchema cx n) :=
  compareSchema_meets cx e.defs1 e.defs2 n k e.lt

theorem Env.compareChains (e : Env V F cx n k) (c1 c2 : List Simple) :
    Meets V F (fun _ => True) (compareProps n (forChain c1) (forChain c2)) :=
  compareProps_meets n _ _ (fun f => forChain_fitsL _ (e.two f)) (fun f => forChain_fitsL _ (e.two f))

theorem compareParams_meets (e : Env V F cx n k) (url method location name : String) (p1 p2 : Param)
    (k1 : ParamAdm V F cx.defs1 k p1) (k2 : ParamAdm V F cx.defs2 k p2) (st : St) :
    Meets V F (St.Le st) (compareParams cx n url method location name p1 p2 st) := by
  unfold compareParams
  refine Meets.bind (P := fun (r : Loc × St) => St.Le st r.2) ?_ (fun r hr => ?_)
  · split
    · rename_i sc1 sc2 e1 e2
      refine Meets.bind (P := fun (cl : Loc) => cl.node ≠ []) ?_ (fun cl hcl => ?_)
      · refine meets_ite (fun _ => ?_) (fun _ => addNode_ne_nil)
        exact (nodeOfProps_meets n name sc2 ((k2.schema e2).fitsL e.le)).andThen (fun _ => addNode_ne_nil)
      · exact ((e.compareSchema cl sc1 sc2 _ (fun _ => hcl) (k1.schema e1) (k2.schema e2)).le_trans
          compareDescripton_le).bind (fun _ h => h)
    · exact compareDescripton_le
  · refine (e.compareChains _ _).andThen (fun diffs => ?_)
    refine (nodeOfSimple_meets name p2.chain k2.chain).andThen (fun nd => ?_)
    exact (compareSimpleSchema_meets _ p1.chain p2.chain _ (fun v => ⟨k1.chain v, k2.chain v⟩)).le_trans
      (hr.trans (addDiffs_le.trans addDiffs_le))

theorem delParamStep_meets (location : Loc) (params2 : List (String × Param)) (st : St) (kv : String × Param)
    (h : V → chainOk kv.2.chain = true) : Meets V F (St.Le st) (delParamStep location params2 st kv) := by
  unfold delParamStep
  refine meets_ite (fun _ => St.Le.refl _) (fun _ => ?_)
  exact (nodeOfSimple_meets _ _ h).andThen (fun _ => addDiff_le)

theorem cmpParamStep_meets (e : Env V F cx n k) (um2 : UM) (pl : String) (location : Loc) (params1 : List (String × Param))
    (hp1 : ∀ kv ∈ params1, ParamAdm V F cx.defs1 k kv.2) (st : St) (kv : String × Param)
    (hkv : ParamAdm V F cx.defs2 k kv.2) : Meets V F (St.Le st) (cmpParamStep cx n um2 pl location params1 st kv) := by
  unfold cmpParamStep
  split
  · rename_i p1 hl1
    exact compareParams_meets e _ _ _ _ p1 kv.2 (hp1 (kv.1, p1) (lookup_mem _ _ _ hl1)) hkv st
  · exact (nodeOfSimple_meets _ _ hkv.chain).andThen (fun _ => addDiff_le)

theorem umStep_meets (e : Env V F cx n k) (u1 : List UM) (k1 : ∀ u ∈ u1, UMAdm V F cx.defs1 k u) (pl : String) (st : St)
    (um2 : UM) (k2 : UMAdm V F cx.defs2 k um2) : Meets V F (St.Le st) (umStep cx n u1 pl st um2) := by
  unfold umStep
  split
  · exact St.Le.refl _
  · rename_i um1 hf
    have a1 := (k1 um1 (findBy_mem hf)).params pl
    refine Meets.le_bind (foldlM_le _ _ _ (fun b kv hkv => ?_)) (fun st1 => foldlM_le _ _ _ (fun b kv hkv => ?_))
    · exact delParamStep_meets _ _ b kv (a1 kv (it_mem.mp hkv)).chain
    · exact cmpParamStep_meets e um2 pl _ _ a1 b kv (k2.params pl kv (it_mem.mp hkv))

theorem analyseRequestParams_meets (e : Env V F cx n k) (u1 u2 : List UM) (k1 : ∀ u ∈ u1, UMAdm V F cx.defs1 k u)
    (k2 : ∀ u ∈ u2, UMAdm V F cx.defs2 k u) (st : St) : Meets V F (St.Le st) (analyseRequestParams cx n u1 u2 st) := by
  rw [analyseRequestParams_eq]
  refine foldlM_le _ _ _ (fun b pl _ => foldlM_le _ _ _ (fun b' um2 hum2 => ?_))
  exact umStep_meets e u1 k1 pl b' um2 (k2 um2 (it_mem.mp hum2))

theorem RespAdm.bodyNode {d : Defs} {r : Response} (h : RespAdm V F d k r) (hk : F → k ≤ n) :
    Meets V F (fun _ => True) (Gs.Diff.bodyNode n r.schema) := by
  unfold Gs.Diff.bodyNode
  split
  · trivial
  · rename_i s e
    exact nodeOfProps_meets n _ s ((h.schema e).fitsL hk)

theorem delRespStep_meets (hk : F → k ≤ n) (d : Defs) (base : Loc) (r2 : List Response) (st : St) (resp1 : Response)
    (h : RespAdm V F d k resp1) : Meets V F (St.Le st) (delRespStep n base r2 st resp1) := by
  unfold delRespStep
  refine meets_ite (fun _ => St.Le.refl _) (fun _ => ?_)
  exact (h.bodyNode hk).andThen (fun _ => addDiff_le)

theorem hdrStep_meets (e : Env V F cx n k) (location : Loc) (hs1 : List Header) (st : St) (h2 : Header)
    (hh2 : V → chainOk h2.chain = true) : Meets V F (St.Le st) (hdrStep n location hs1 st h2) := by
  unfold hdrStep
  split
  · exact (e.compareChains _ _).andThen (fun _ => addDiffs_le)
  · exact (nodeOfSimple_meets _ _ hh2).andThen (fun _ => addDiff_le)

theorem delHdrStep_meets (location : Loc) (hs2 : List Header) (st : St) (h1 : Header) (hh1 : V → chainOk h1.chain = true) :
    Meets V F (St.Le st) (delHdrStep location hs2 st h1) := by
  unfold delHdrStep
  refine meets_ite (fun _ => St.Le.refl _) (fun _ => ?_)
  exact (nodeOfSimple_meets _ _ hh1).andThen (fun _ => addDiff_le)

theorem respBodyStep_meets (e : Env V F cx n k) (base : Loc) (resp1 resp2 : Response)
    (q1 : RespAdm V F cx.defs1 k resp1) (q2 : RespAdm V F cx.defs2 k resp2) (st : St) :
    Meets V F (St.Le st) (respBodyStep cx n base resp1 resp2 st) := by
  have node : ∀ {d : Defs} {s : Schema}, Adm V F d k s → Meets V F (fun _ => True) (nodeOfProps n "Body" s) :=
    fun a => nodeOfProps_meets n _ _ (a.fitsL e.le)
  unfold respBodyStep
  refine (q1.bodyNode e.le).andThen (fun nd => ?_)
  split
  · rename_i s1 e1 _
    exact (node (q1.schema e1)).andThen (fun _ => compareDescripton_le.trans addDiff_le)
  · rename_i s1 s2 e1 e2
    refine (node (q1.schema e1)).andThen (fun nd' => ?_)
    exact (e.compareSchema _ s1 s2 _ (fun _ => by simp) (q1.schema e1) (q2.schema e2)).le_trans compareDescripton_le
  · rename_i s2 _ e2
    exact (node (q2.schema e2)).andThen (fun _ => compareDescripton_le.trans addDiff_le)
  · exact compareDescripton_le

theorem respRestStep_meets (e : Env V F cx n k) (r1 : List Response) (q1 : ∀ r ∈ r1, RespAdm V F cx.defs1 k r) (base : Loc)
    (st : St) (resp2 : Response) (q2 : RespAdm V F cx.defs2 k resp2) :
    Meets V F (St.Le st) (respRestStep cx n r1 base st resp2) := by
  unfold respRestStep
  split
  · exact (q2.bodyNode e.le).andThen (fun _ => addDiff_le)
  · rename_i resp1 hf1
    have p1 := q1 resp1 (findBy_mem hf1)
    refine Meets.le_bind (foldlM_le _ _ _ (fun b hdr2 hh2 => ?_)) (fun st1 => ?_)
    · exact hdrStep_meets e _ _ b hdr2 (fun v => q2.headers v hdr2 (it_mem.mp hh2))
    refine Meets.le_bind (foldlM_le _ _ _ (fun b hdr1 hh1 => ?_)) (fun st2 => ?_)
    · exact delHdrStep_meets _ _ b hdr1 (fun v => p1.headers v hdr1 (it_mem.mp hh1))
    exact respBodyStep_meets e base resp1 resp2 p1 q2 st2

theorem respStep_meets (e : Env V F cx n k) (u1 : List UM) (k1 : ∀ u ∈ u1, UMAdm V F cx.defs1 k u) (st : St) (um2 : UM)
    (k2 : UMAdm V F cx.defs2 k um2) : Meets V F (St.Le st) (respStep cx n u1 st um2) := by
  unfold respStep
  split
  · exact St.Le.refl _
  · rename_i um1 hf
    have o1 := k1 um1 (findBy_mem hf)
    refine Meets.le_bind (foldlM_le _ _ _ (fun b resp1 hr1 => ?_)) (fun st1 => foldlM_le _ _ _ (fun b resp2 hr2 => ?_))
    · exact delRespStep_meets e.le cx.defs1 _ _ b resp1 (o1.response (it_mem.mp hr1))
    · exact respRestStep_meets e _ (fun r hr => o1.response hr) _ b resp2 (k2.response (it_mem.mp hr2))

theorem analyseResponseParams_meets (e : Env V F cx n k) (u1 u2 : List UM) (k1 : ∀ u ∈ u1, UMAdm V F cx.defs1 k u)
    (k2 : ∀ u ∈ u2, UMAdm V F cx.defs2 k u) (st : St) : Meets V F (St.Le st) (analyseResponseParams cx n u1 u2 st) := by
  rw [analyseResponseParams_eq]
  exact foldlM_le _ _ _ (fun b um2 hum2 => respStep_meets e u1 k1 b um2 (k2 um2 (it_mem.mp hum2)))

theorem analyseDefinitions_meets (e : Env V F cx n k) (st : St) : Meets V F (St.Le st) (analyseDefinitions cx n st) := by
  unfold analyseDefinitions
  refine Meets.bind (P := St.Le st) (foldlM_le _ _ _ (fun b kv hkv => ?_)) (fun st1 le1 => ?_)
  · refine meets_ite (fun _ => St.Le.refl _) (fun _ => ?_)
    split
    · rename_i s2 hl2
      have hm := it_mem.mp hkv
      exact e.compareSchema _ kv.2 s2 b (fun _ => addNode_ne_nil)
        ⟨fun v => e.defs1 v kv hm, fun f => e.fits1 f kv hm⟩
        ⟨fun v => (e.defs2 v).lookup hl2, fun f => e.fits2 f (kv.1, s2) (lookup_mem _ _ _ hl2)⟩
    · exact addDiffs_le
  · exact le1.trans (foldl_le (fun _ _ => .ite (.refl _) addDiffs_le))

theorem findDeletedEndpoints_le (rev : Nat) (u1 u2 : List UM) (st : St) : St.Le st (findDeletedEndpoints rev u1 u2 st) :=
  foldl_le (fun _ _ => .ite addDiff_le (.refl _))

theorem findAddedEndpoints_le (rev : Nat) (u1 u2 : List UM) (st : St) : St.Le st (findAddedEndpoints rev u1 u2 st) :=
  foldl_le (fun _ _ => .ite addDiff_le (.refl _))

theorem analyseEndpointData_le (rev : Nat) (u1 u2 : List UM) (st : St) : St.Le st (analyseEndpointData rev u1 u2 st) := by
  refine foldl_le (fun b um2 => ?_)
  split
  · exact St.Le.refl _
  · -- the added tags, the deleted tags, the description
    exact (foldl_le (fun _ _ => addDiff_le)).trans ((foldl_le (fun _ _ => addDiff_le)).trans compareDescripton_le)

/-- **Analyse** panics only on an invalid document and runs out of fuel only on a document deeper than the fuel. -/
theorem analyse_meets (fl : Flags) (n k : Nat) (a b : Spec) (ha : a.Adm V F k) (hb : b.Adm V F k) (hn : F → k < n ∧ 2 ≤ n) :
    Meets V F (fun _ => True) (analyse fl n a b) := by
  have e : Env V F (ctxOf fl a b) n k :=
    ⟨ha.defs, hb.defs, ha.fits, hb.fits, fun f => (hn f).1, fun f => (hn f).2⟩
  unfold analyse
  refine (analyseRequestParams_meets e _ _ ha.um hb.um _).bind (fun st _ => ?_)
  refine (analyseResponseParams_meets e _ _ ha.um hb.um _).bind (fun st _ => ?_)
  exact (analyseDefinitions_meets e _).bind (fun _ _ => trivial)

end

/-! ### read off: the state only grows, whatever the documents

  With `V := False` and `F := False` every assumption of the walk is vacuous. -/

theorem Adm.trivial {d : Defs} {k : Nat} {s : Schema} : Adm False False d k s := ⟨nofun, nofun⟩
theorem ParamAdm.trivial {d : Defs} {k : Nat} {p : Param} : ParamAdm False False d k p := ⟨nofun, fun _ => .trivial⟩
theorem RespAdm.trivial {d : Defs} {k : Nat} {r : Response} : RespAdm False False d k r := ⟨nofun, fun _ => .trivial⟩
theorem UMAdm.trivial {d : Defs} {k : Nat} {u : UM} : UMAdm False False d k u :=
  ⟨fun _ _ => .trivial, fun _ _ => .trivial, fun _ => .trivial⟩
theorem Env.trivial {cx : Ctx} {n : Nat} : Env False False cx n 0 := ⟨nofun, nofun, nofun, nofun, nofun, nofun⟩

theorem foldlM_grows {α} (f : St → α → Outcome St) (l : List α) (st : St) (hf : ∀ b a, Holds (St.Le b) (f b a)) :
    Holds (St.Le st) (foldlM f st l) :=
  (foldlM_le f l st (fun b a _ => (hf b a).meets)).holds

theorem compareSimpleSchema_grows (loc : Loc) (c1 c2 : List Simple) (st : St) :
    Holds (St.Le st) (compareSimpleSchema loc c1 c2 st) :=
  (compareSimpleSchema_meets (V := False) (F := False) loc c1 c2 st nofun).holds

theorem compareSchema_grows (cx : Ctx) (n : Nat) (loc : Loc) (o1 o2 : Option Schema) (st : St) :
    Holds (St.Le st) (compareSchema cx n loc o1 o2 st) :=
  match n, o1, o2 with
  | 0, _, _ => trivial
  | _+1, none, _ => trivial
  | _+1, some _, none => trivial
  | _+1, some s1, some s2 => (Env.trivial.compareSchema loc s1 s2 st nofun .trivial .trivial).holds

theorem propStep_grows (cx : Ctx) (m n : Nat) (loc : Loc) (props2 : List (String × PropDefn)) (acc : St × List (Loc × Code))
    (kv : String × PropDefn) :
    Holds (fun (r : St × List (Loc × Code)) => St.Le acc.1 r.1) (propStep (compareSchema cx m) n loc props2 acc kv) :=
  (propStep_meets cx _ 0 n Env.trivial.compareSchema nofun loc props2 (fun _ _ => .trivial) acc kv .trivial).holds

theorem delParamStep_grows (location : Loc) (params2 : List (String × Param)) (st : St) (kv : String × Param) :
    Holds (St.Le st) (delParamStep location params2 st kv) :=
  (delParamStep_meets (V := False) (F := False) location params2 st kv nofun).holds

theorem cmpParamStep_grows (cx : Ctx) (n : Nat) (um2 : UM) (pl : String) (location : Loc) (params1 : List (String × Param))
    (st : St) (kv : String × Param) : Holds (St.Le st) (cmpParamStep cx n um2 pl location params1 st kv) :=
  (cmpParamStep_meets .trivial um2 pl location params1 (fun _ _ => .trivial) st kv .trivial).holds

theorem umStep_grows (cx : Ctx) (n : Nat) (u1 : List UM) (pl : String) (st : St) (um2 : UM) :
    Holds (St.Le st) (umStep cx n u1 pl st um2) :=
  (umStep_meets .trivial u1 (fun _ _ => .trivial) pl st um2 .trivial).holds

theorem analyseRequestParams_grows (cx : Ctx) (n : Nat) (u1 u2 : List UM) (st : St) :
    Holds (St.Le st) (analyseRequestParams cx n u1 u2 st) :=
  (analyseRequestParams_meets .trivial u1 u2 (fun _ _ => .trivial) (fun _ _ => .trivial) st).holds

theorem delRespStep_grows (n : Nat) (base : Loc) (r2 : List Response) (st : St) (resp1 : Response) :
    Holds (St.Le st) (delRespStep n base r2 st resp1) :=
  (delRespStep_meets (V := False) (F := False) (k := 0) nofun [] base r2 st resp1 .trivial).holds

theorem respRestStep_grows (cx : Ctx) (n : Nat) (r1 : List Response) (base : Loc) (st : St) (resp2 : Response) :
    Holds (St.Le st) (respRestStep cx n r1 base st resp2) :=
  (respRestStep_meets .trivial r1 (fun _ _ => .trivial) base st resp2 .trivial).holds

theorem respStep_grows (cx : Ctx) (n : Nat) (u1 : List UM) (st : St) (um2 : UM) : Holds (St.Le st) (respStep cx n u1 st um2) :=
  (respStep_meets .trivial u1 (fun _ _ => .trivial) st um2 .trivial).holds

theorem analyseResponseParams_grows (cx : Ctx) (n : Nat) (u1 u2 : List UM) (st : St) :
    Holds (St.Le st) (analyseResponseParams cx n u1 u2 st) :=
  (analyseResponseParams_meets .trivial u1 u2 (fun _ _ => .trivial) (fun _ _ => .trivial) st).holds

theorem analyseDefinitions_grows (cx : Ctx) (n : Nat) (st : St) : Holds (St.Le st) (analyseDefinitions cx n st) :=
  (analyseDefinitions_meets .trivial st).holds

theorem findDeletedEndpoints_sub (rev : Nat) (u1 u2 : List UM) (st : St) : Sub st (findDeletedEndpoints rev u1 u2 st) :=
  (findDeletedEndpoints_le rev u1 u2 st).sub

/-- valid: what `V` stands for.  Every `$ref` met in a schema of the document (at any depth, through properties, items and
    allOf) names a definition, and every array level of a parameter's or a header's type has a level below it (the
    depth plays no part without `F`; 0 is a placeholder) -/
abbrev Spec.Valid (s : Spec) : Prop := s.Adm True False 0

/-- what `F` stands for: every schema of the document, `$ref`s followed, is at most `k` levels deep -/
abbrev Spec.Fits (k : Nat) (s : Spec) : Prop := s.Adm False True k

/-- **Totality (no panic).** On two valid documents the analyser returns a report or runs out of the fuel it was
    given; it never reaches an unguarded dereference — for every fuel and every iteration order. -/
theorem analyse_safe (fl : Flags) (n : Nat) (a b : Spec) (ha : a.Valid) (hb : b.Valid) : NoPanic (analyse fl n a b) :=
  (analyse_meets fl n 0 a b ha hb nofun).safe

/-- **Termination (acyclic case).** If every schema of both documents, `$ref`s followed, is at most `n+1` levels deep, the
    analyser returns (or panics — excluded by `analyse_safe` on valid documents) with fuel `n+2`: it does not loop. -/
theorem analyse_term (fl : Flags) (n : Nat) (a b : Spec) (ha : a.Fits (n+1)) (hb : b.Fits (n+1)) : NoFuel (analyse fl (n+2) a b) :=
  (analyse_meets fl (n+2) (n+1) a b ha hb (fun _ => ⟨Nat.lt_succ_self _, Nat.le_add_left 2 n⟩)).term

end Gs.Diff
