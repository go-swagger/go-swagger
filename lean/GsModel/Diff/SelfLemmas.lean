import GsModel.Diff.Maps
/-
  C12 (identity), the leaves: every comparator of checks.go reports nothing on equal arguments (`@[simp]`: the walk of
  Diff/Self.lean closes its leaves with them), and the state-level helpers leave the list of differences as it is.
-/
namespace Gs.Diff
open Gs Gs.Gen Gs.Outcome

@[simp] theorem compareIntValues_self (v : Option Int) (a b : Code) : compareIntValues v v a b = [] := by
  cases v <;> simp [compareIntValues]

@[simp] theorem checkToFromRequired_self (r : Bool) : checkToFromRequired r r = [] := by
  simp [checkToFromRequired]

/-- the two lists are read as sets: neither order nor repetition is reported -/
theorem diffsTo_of_mem_iff {l l' : List String} (h : ∀ x, x ∈ l ↔ x ∈ l') : diffsTo (some l) l' = ([], []) := by
  have h1 : l'.filter (fun x => !l.contains x) = [] := by
    rw [List.filter_eq_nil_iff]; intro x hx; simp [(h x).mpr hx]
  have h2 : l.filter (fun x => !l'.contains x) = [] := by
    rw [List.filter_eq_nil_iff]; intro x hx; simp [(h x).mp hx]
  simp only [diffsTo, h1, h2, dedup, sortStrs]

@[simp] theorem diffsTo_self (l : List String) : diffsTo (some l) l = ([], []) := diffsTo_of_mem_iff (fun _ => .rfl)

@[simp] theorem diffsTo_self_opt (o : Option (List String)) : diffsTo o (o.getD []) = ([], []) := by
  cases o with
  | none => simp [diffsTo]
  | some l => simp

@[simp] theorem compareEnums_self (l : List JVal) : compareEnums l l = [] := by
  simp [compareEnums]

@[simp] theorem checkStringTypeChanges_self (t : Schema) : checkStringTypeChanges [] t t = [] := by
  unfold checkStringTypeChanges
  split
  · simp
  · rfl

@[simp] theorem checkNumericTypeChanges_self (t : Schema) : checkNumericTypeChanges [] t t = [] := by
  unfold checkNumericTypeChanges
  split
  · simp [compareFloatValues]
  · rfl

@[simp] theorem checkRefChangeProps_self (n : Nat) (t : Schema) : checkRefChangeProps n t t = .ok [] := by
  unfold checkRefChangeProps
  simp

@[simp] theorem checkRefChangeSchema_self (n : Nat) (t : Schema) : checkRefChangeSchema n t t = .ok [] := by
  unfold checkRefChangeSchema
  simp

/-- CompareProps reports nothing on equal arguments (it cannot even panic: every type-name helper is only
    reached after a difference has been found). -/
@[simp] theorem compareProps_self (n : Nat) (t : Schema) : compareProps n t t = .ok [] := by
  unfold compareProps
  simp [Outcome.bind]

@[simp] theorem addDiffs_nil (st : St) (loc : Loc) : st.addDiffs loc [] = st := rfl

@[simp] theorem compareDescripton_self (st : St) (loc : Loc) (d : String) : st.compareDescripton loc d d = st := by
  simp [St.compareDescripton]

@[simp] theorem markRefs_diffs (st : St) (l : List String) : (st.markRefs l).diffs = st.diffs := rfl

theorem ifaceNe_self (a : Option JVal) : ifaceNe a a = .ok false := by
  unfold ifaceNe
  cases a <;> simp

theorem compareSimpleSchema_self (loc : Loc) (c : List Simple) (st : St) :
    Holds (fun st' => st'.diffs = st.diffs) (compareSimpleSchema loc c c st) := by
  induction c with
  | nil => trivial
  | cons s r ih =>
    unfold compareSimpleSchema
    simp only [Bool.and_not_self, Bool.false_eq_true, if_false, Bool.not_and_self, ne_eq, not_true_eq_false,
      ifaceNe_self, ok_bind']
    split
    · exact ih
    · rfl

end Gs.Diff
