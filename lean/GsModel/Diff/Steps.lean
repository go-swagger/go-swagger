import GsModel.Diff.Analyser
/-
  The loop bodies of `analyseRequestParams` and `analyseResponseParams`, named.  The analyser inlines them (as the Go code
  does); every proof about the two passes goes loop by loop, so each body gets a name here and each pass is shown — by `rfl` —
  to be the fold of its named bodies.  With them, the equations of the loop bodies and of `compareSchema`, `compareItems`
  and `propertiesFor` on the forms of input that the proofs about single edits meet (the walks of Diff/Walk.lean and
  Diff/Self.lean open each function once, which is their business).
-/
namespace Gs.Diff
open Gs Gs.Gen Gs.Outcome

theorem propStep_some {cmp : Cmp} {n : Nat} {loc : Loc} {props2 : List (String × PropDefn)} {acc : St × List (Loc × Code)}
    {kv : String × PropDefn} {p2 : PropDefn} (h : lookup props2 kv.1 = some p2) :
    propStep cmp n loc props2 acc kv = (addChildDiffNode n loc kv.1 kv.2.schema).bind fun childLoc =>
      (cmp childLoc (some kv.2.schema) (some p2.schema) acc.1).bind fun st' =>
        .ok (st', acc.2 ++ (checkToFromRequired kv.2.required p2.required).map (fun d => (childLoc, d.change))) := by
  simp only [propStep, h]

theorem propStep_none {cmp : Cmp} {n : Nat} {loc : Loc} {props2 : List (String × PropDefn)} {acc : St × List (Loc × Code)}
    {kv : String × PropDefn} (h : lookup props2 kv.1 = none) :
    propStep cmp n loc props2 acc kv = (addChildDiffNode n loc kv.1 kv.2.schema).bind fun childLoc =>
      .ok (acc.1, acc.2 ++ [(childLoc, Code.DeletedProperty)]) := by
  simp only [propStep, h]

/-- parameters of the first document that the second one lacks -/
def delParamStep (location : Loc) (params2 : List (String × Param)) (st : St) (kv : String × Param) : Outcome St :=
  if hasKey params2 kv.1 then .ok st else
  (nodeOfSimple kv.1 kv.2.chain).bind fun nd =>
    .ok (st.addDiff (location.addNode nd)
          (if kv.2.required then Code.DeletedRequiredParam else Code.DeletedOptionalParam))

/-- parameters of the second document: compared with their counterpart, or reported as added -/
def cmpParamStep (cx : Ctx) (n : Nat) (um2 : UM) (paramLocation : String) (location : Loc) (params1 : List (String × Param))
    (st : St) (kv : String × Param) : Outcome St :=
  match lookup params1 kv.1 with
  | some p1 => compareParams cx n um2.url um2.method paramLocation kv.1 p1 kv.2 st
  | none =>
    (nodeOfSimple kv.1 kv.2.chain).bind fun nd =>
      .ok (st.addDiff (location.addNode nd)
            (if kv.2.required then Code.AddedRequiredParam else Code.AddedOptionalParam))

theorem delParamStep_none {location : Loc} {params2 : List (String × Param)} {st : St} {kv : String × Param}
    (h : hasKey params2 kv.1 = false) :
    delParamStep location params2 st kv = (nodeOfSimple kv.1 kv.2.chain).bind fun nd =>
      .ok (st.addDiff (location.addNode nd) (if kv.2.required then Code.DeletedRequiredParam else Code.DeletedOptionalParam)) := by
  simp [delParamStep, h]

theorem cmpParamStep_some {cx : Ctx} {n : Nat} {um2 : UM} {pl : String} {location : Loc} {params1 : List (String × Param)}
    {st : St} {kv : String × Param} {p1 : Param} (h : lookup params1 kv.1 = some p1) :
    cmpParamStep cx n um2 pl location params1 st kv = compareParams cx n um2.url um2.method pl kv.1 p1 kv.2 st := by
  simp only [cmpParamStep, h]

theorem cmpParamStep_none {cx : Ctx} {n : Nat} {um2 : UM} {pl : String} {location : Loc} {params1 : List (String × Param)}
    {st : St} {kv : String × Param} (h : lookup params1 kv.1 = none) :
    cmpParamStep cx n um2 pl location params1 st kv = (nodeOfSimple kv.1 kv.2.chain).bind fun nd =>
      .ok (st.addDiff (location.addNode nd) (if kv.2.required then Code.AddedRequiredParam else Code.AddedOptionalParam)) := by
  simp only [cmpParamStep, h]

/-- one endpoint of the second document, for one parameter location -/
def umStep (cx : Ctx) (n : Nat) (u1 : List UM) (paramLocation : String) (st : St) (um2 : UM) : Outcome St :=
  match findUM u1 um2.url um2.method with
  | none => .ok st
  | some um1 =>
    let params1 := getParams um1.item.params um1.op.params paramLocation
    let params2 := getParams um2.item.params um2.op.params paramLocation
    let location : Loc := { url := um2.url, method := um2.method, node := [nameNode (title paramLocation)] }
    (Outcome.foldlM (delParamStep location params2) st (it cx.rev params1)).bind fun st =>
    Outcome.foldlM (cmpParamStep cx n um2 paramLocation location params1) st (it cx.rev params2)

theorem umStep_some {cx : Ctx} {n : Nat} {u1 : List UM} {pl : String} {st : St} {um1 um2 : UM}
    (h : findUM u1 um2.url um2.method = some um1) :
    umStep cx n u1 pl st um2 =
      (Outcome.foldlM (delParamStep { url := um2.url, method := um2.method, node := [nameNode (title pl)] }
        (getParams um2.item.params um2.op.params pl)) st (it cx.rev (getParams um1.item.params um1.op.params pl))).bind fun st =>
      Outcome.foldlM (cmpParamStep cx n um2 pl { url := um2.url, method := um2.method, node := [nameNode (title pl)] }
        (getParams um1.item.params um1.op.params pl)) st (it cx.rev (getParams um2.item.params um2.op.params pl)) := by
  simp only [umStep, h]

theorem analyseRequestParams_eq (cx : Ctx) (n : Nat) (u1 u2 : List UM) (st : St) :
    analyseRequestParams cx n u1 u2 st =
      Outcome.foldlM (fun st pl => Outcome.foldlM (umStep cx n u1 pl) st (it cx.rev u2)) st paramLocations := rfl

/-- response codes of the first document that the second one lacks -/
def delRespStep (n : Nat) (base : Loc) (r2 : List Response) (st : St) (resp1 : Response) : Outcome St :=
  if (findResp r2 resp1.code).isSome then .ok st else
  (bodyNode n resp1.schema).bind fun nd =>
  .ok (st.addDiff { base with response := resp1.code, node := [nd] } Code.DeletedResponse)

/-- headers of the second response: compared with their counterpart, or reported as added -/
def hdrStep (n : Nat) (location : Loc) (hs1 : List Header) (st : St) (h2 : Header) : Outcome St :=
  match findHeader hs1 h2.name with
  | some h1 => (compareProps n (forChain h1.chain) (forChain h2.chain)).bind fun ds => .ok (st.addDiffs location ds)
  | none => (nodeOfSimple h2.name h2.chain).bind fun nd => .ok (st.addDiff (location.addNode nd) Code.AddedResponseHeader)

/-- headers of the first response that the second one lacks -/
def delHdrStep (location : Loc) (hs2 : List Header) (st : St) (h1 : Header) : Outcome St :=
  if (findHeader hs2 h1.name).isSome then .ok st else
  (nodeOfSimple h1.name h1.chain).bind fun nd => .ok (st.addDiff (location.addNode nd) Code.DeletedResponseHeader)

/-- description and body schema of a response code both documents declare -/
def respBodyStep (cx : Ctx) (n : Nat) (base : Loc) (resp1 resp2 : Response) (st : St) : Outcome St :=
  (bodyNode n resp1.schema).bind fun nd =>
  let st := st.compareDescripton { base with response := resp2.code, node := [nd] } resp1.desc resp2.desc
  match resp1.schema, resp2.schema with
  | some s1, none =>
    (nodeOfProps n "Body" s1).bind fun nd =>
      .ok (st.addDiff { base with response := resp2.code, node := [nd] } Code.DeletedProperty)
  | some s1, some s2 =>
    (nodeOfProps n "Body" s1).bind fun nd =>
      compareSchema cx n { base with response := resp2.code, node := [nd] } (some s1) (some s2) st
  | none, some s2 =>
    (nodeOfProps n "Body" s2).bind fun nd =>
      .ok (st.addDiff { base with response := resp2.code, node := [nd] } Code.AddedProperty)
  | none, none => .ok st

/-- response codes of the second document: added, or compared (headers both ways, then description and body) -/
def respRestStep (cx : Ctx) (n : Nat) (r1 : List Response) (base : Loc) (st : St) (resp2 : Response) : Outcome St :=
  match findResp r1 resp2.code with
  | none =>
    (bodyNode n resp2.schema).bind fun nd =>
      .ok (st.addDiff { base with response := resp2.code, node := [nd] } Code.AddedResponse)
  | some resp1 =>
    let location : Loc := { base with response := resp2.code, node := [nameNode "Headers"] }
    (Outcome.foldlM (hdrStep n location resp1.headers) st (it cx.rev resp2.headers)).bind fun st =>
    (Outcome.foldlM (delHdrStep location resp2.headers) st (it cx.rev resp1.headers)).bind fun st =>
    respBodyStep cx n base resp1 resp2 st

/-- one endpoint of the second document -/
def respStep (cx : Ctx) (n : Nat) (u1 : List UM) (st : St) (um2 : UM) : Outcome St :=
  match findUM u1 um2.url um2.method with
  | none => .ok st
  | some um1 =>
    let base : Loc := { url := um2.url, method := um2.method }
    (Outcome.foldlM (delRespStep n base um2.op.responses) st (it cx.rev um1.op.responses)).bind fun st =>
    Outcome.foldlM (respRestStep cx n um1.op.responses base) st (it cx.rev um2.op.responses)

theorem delRespStep_gone {n : Nat} {base : Loc} {r2 : List Response} {st : St} {resp1 : Response}
    (h : findResp r2 resp1.code = none) :
    delRespStep n base r2 st resp1 = (bodyNode n resp1.schema).bind fun nd =>
      .ok (st.addDiff { base with response := resp1.code, node := [nd] } Code.DeletedResponse) := by
  simp [delRespStep, h]

theorem respRestStep_none {cx : Ctx} {n : Nat} {r1 : List Response} {base : Loc} {st : St} {resp2 : Response}
    (h : findResp r1 resp2.code = none) :
    respRestStep cx n r1 base st resp2 = (bodyNode n resp2.schema).bind fun nd =>
      .ok (st.addDiff { base with response := resp2.code, node := [nd] } Code.AddedResponse) := by
  simp only [respRestStep, h]

theorem respRestStep_some {cx : Ctx} {n : Nat} {r1 : List Response} {base : Loc} {st : St} {resp1 resp2 : Response}
    (h : findResp r1 resp2.code = some resp1) :
    respRestStep cx n r1 base st resp2 =
      (Outcome.foldlM (hdrStep n { base with response := resp2.code, node := [nameNode "Headers"] } resp1.headers) st
        (it cx.rev resp2.headers)).bind fun st =>
      (Outcome.foldlM (delHdrStep { base with response := resp2.code, node := [nameNode "Headers"] } resp2.headers) st
        (it cx.rev resp1.headers)).bind fun st =>
      respBodyStep cx n base resp1 resp2 st := by
  simp only [respRestStep, h]

theorem respStep_some {cx : Ctx} {n : Nat} {u1 : List UM} {st : St} {um1 um2 : UM}
    (h : findUM u1 um2.url um2.method = some um1) :
    respStep cx n u1 st um2 =
      (Outcome.foldlM (delRespStep n { url := um2.url, method := um2.method } um2.op.responses) st
        (it cx.rev um1.op.responses)).bind fun st =>
      Outcome.foldlM (respRestStep cx n um1.op.responses { url := um2.url, method := um2.method }) st
        (it cx.rev um2.op.responses) := by
  simp only [respStep, h]

theorem analyseResponseParams_eq (cx : Ctx) (n : Nat) (u1 u2 : List UM) (st : St) :
    analyseResponseParams cx n u1 u2 st = Outcome.foldlM (respStep cx n u1) st (it cx.rev u2) := rfl

/-- the context in which `analyse` runs its passes -/
abbrev ctxOf (fl : Flags) (a b : Spec) : Ctx := { defs1 := a.defs, defs2 := b.defs, rev := fl.rev }

theorem compareSchema_norefs (cx : Ctx) (n : Nat) (loc : Loc) (s1 s2 : Schema) (st : St) (h1 : s1.ref = "") (h2 : s2.ref = "") :
    compareSchema cx (n+1) loc (some s1) (some s2) st =
      (compareProps n s1 s2).bind fun typeDiffs =>
        if !typeDiffs.isEmpty then .ok ((st.compareDescripton loc s1.desc s2.desc).addDiffs loc typeDiffs) else
        (compareItems (compareSchema cx n) n loc s1 s2 (st.compareDescripton loc s1.desc s2.desc)).bind fun st =>
        compareProperties cx (compareSchema cx n) n loc s1 s2 st := by
  rw [compareSchema]
  -- CheckRefChange finds nothing and both sides resolve to themselves
  simp [checkRefChangeSchema, resolveBoth, h1, h2, Outcome.bind]

theorem compareItems_notarray (cmp : Cmp) (n : Nat) (loc : Loc) (t1 t2 : Schema) (st : St) (h : isArrayType t1.type = false) :
    compareItems cmp n loc t1 t2 st = .ok st := by
  simp [compareItems, h]

theorem propertiesFor_plain (d : Defs) (n : Nat) (s : Schema) (hr : s.ref = "") (ha : s.allOf = []) (hp : s.hasProps = true) :
    propertiesFor d (n+1) s =
      .ok (s.props.foldl (fun acc kv => upsert acc kv.1 { schema := kv.2, required := s.required.contains kv.1 }) [], []) := by
  simp [propertiesFor, hr, ha, hp, Outcome.bind, Outcome.foldlM]

end Gs.Diff
