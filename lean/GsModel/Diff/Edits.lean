import GsModel.Diff.Lift
/-
  C13 / C14, the single edits lifted to the whole report — for every fuel, every iteration order, whatever else the two
  documents contain.  Each theorem says that the ENTRY written for the edit is in every report the analyser returns, for any
  property `Q` of that entry: its classification (C13: a narrowing is Breaking), its code (C14: Added one way, Deleted with the
  documents exchanged).
    * a type difference CompareProps finds on a shared parameter's own level, at the root or at a property of an inline request
      body (`analyse_has_param_change`, `analyse_has_body_change` with `compareSchema_hits_root`, `compareSchema_hits_property`);
    * an endpoint, a parameter, a response code that only one document has (`analyse_has_added_…`, `analyse_has_deleted_…`).
-/
namespace Gs.Diff
open Gs Gs.Gen Gs.Outcome

variable {Q : Diff → Prop}

/-- an endpoint both documents have: `um2` of the second one, found in the first one as `um1` -/
structure SharedEndpoint (a b : Spec) (um1 um2 : UM) : Prop where
  mem : um2 ∈ getURLMethodsFor b
  find : findUM (getURLMethodsFor a) um2.url um2.method = some um1

theorem compareParams_hits (cx : Ctx) (n : Nat) (url method location name : String) (p1 p2 : Param) (st : St)
    (ds : List TDiff) (hcmp : compareProps n (forChain p1.chain) (forChain p2.chain) = .ok ds)
    (td : TDiff) (htd : td ∈ ds) (hne : td.change ≠ Code.NoChangeDetected) (hq : OfChange Q td.change) :
    Holds (Has Q) (compareParams cx n url method location name p1 p2 st) := by
  unfold compareParams
  -- the location of the entry is a request location, whatever the body comparison did before
  refine Holds.bind (P := fun (r : Loc × St) => r.1.response = 0) ?_ (fun r hr => ?_)
  · split
    · refine Holds.bind (P := fun (cl : Loc) => cl.response = 0) ?_ (fun cl hcl => ?_)
      · split
        · exact Holds.skip (fun nd => rfl)
        · rfl
      · exact Holds.skip (fun _ => hcl)
    · rfl
  · rw [hcmp]
    simp only [ok_bind']
    refine Holds.skip (fun nd => ?_)
    have hb := addDiffs_has (r.1.addNode nd) hr td hne hq ds r.2 htd
    exact (hb.le addDiffs_le).keep (compareSimpleSchema_grows _ _ _ _)

/-- **Lifting.** If an endpoint and a parameter (by location and name, path-level or operation-level) exist in both
    documents and CompareProps finds a difference on the parameter's own level, then the entry written for it is in every report
    `Analyse` returns — for every fuel and iteration order, whatever else the two documents contain. -/
theorem analyse_has_param_change (fl : Flags) (n : Nat) (a b : Spec) (pl : String) (hpl : pl ∈ paramLocations)
    {um1 um2 : UM} (e : SharedEndpoint a b um1 um2)
    (name : String) (p1 p2 : Param)
    (h1 : lookup (getParams um1.item.params um1.op.params pl) name = some p1)
    (h2 : (name, p2) ∈ getParams um2.item.params um2.op.params pl)
    (ds : List TDiff) (hcmp : compareProps n (forChain p1.chain) (forChain p2.chain) = .ok ds)
    (td : TDiff) (htd : td ∈ ds) (hne : td.change ≠ Code.NoChangeDetected) (hq : OfChange Q td.change) :
    Reports Q (analyse fl n a b) :=
  analyse_has_of_request fl n a b (analyseRequestParams_has _ n _ _ pl hpl um2 e.mem
    (umStep_has_cmp _ n _ pl um1 um2 e.find (name, p2) h2 (fun b' => by
      rw [cmpParamStep_some h1]
      exact compareParams_hits _ n _ _ _ _ p1 p2 b' ds hcmp td htd hne hq)))

/-! ### an element that only one document has: the entry written for it is in every report

  `Q` is any property of that entry — its code (the direction statements of C14), its classification (the structural edits of
  C13). -/

theorem analyse_has_deleted_endpoint (fl : Flags) (n : Nat) (a b : Spec) (um1 : UM) (h1 : um1 ∈ getURLMethodsFor a)
    (hgone : findUM (getURLMethodsFor b) um1.url um1.method = none)
    (hlive : um1.item.optionsDeprecated = false ∧ um1.op.deprecated = false)
    (hq : Q { loc := { url := um1.url, method := um1.method }, code := Code.DeletedEndpoint,
              compat := getCompatibilityForChange Code.DeletedEndpoint false }) :
    Reports Q (analyse fl n a b) := by
  refine analyse_has_of_endpoints fl n a b (Has.le ?_ (findAddedEndpoints_le _ _ _ _))
  refine foldl_reach (Has Q) _ um1 _ (it_mem.mpr h1) (fun st => ?_) (fun st u hst => ?_) _
  · simp only [hgone, Option.isNone_none, if_true, hlive.1, hlive.2, Bool.or_self, Bool.false_eq_true, if_false]
    exact addDiff_has _ _ _ _ hq
  · exact hst.le (.ite addDiff_le (.refl _))

theorem analyse_has_added_endpoint (fl : Flags) (n : Nat) (a b : Spec) (um2 : UM) (h2 : um2 ∈ getURLMethodsFor b)
    (hnew : findUM (getURLMethodsFor a) um2.url um2.method = none)
    (hq : Q { loc := { url := um2.url, method := um2.method }, code := Code.AddedEndpoint,
              compat := getCompatibilityForChange Code.AddedEndpoint false }) :
    Reports Q (analyse fl n a b) := by
  refine analyse_has_of_endpoints fl n a b ?_
  refine foldl_reach (Has Q) _ um2 _ (it_mem.mpr h2) (fun st => ?_) (fun st u hst => ?_) _
  · simp only [hnew, Option.isNone_none, if_true]
    exact addDiff_has _ _ _ _ hq
  · exact hst.le (.ite addDiff_le (.refl _))

def addedCode (p : Param) : Code := if p.required then Code.AddedRequiredParam else Code.AddedOptionalParam
def deletedCode (p : Param) : Code := if p.required then Code.DeletedRequiredParam else Code.DeletedOptionalParam

theorem analyse_has_added_param (fl : Flags) (n : Nat) (a b : Spec) (pl : String) (hpl : pl ∈ paramLocations)
    {um1 um2 : UM} (e : SharedEndpoint a b um1 um2)
    (name : String) (p2 : Param)
    (h1 : lookup (getParams um1.item.params um1.op.params pl) name = none)
    (h2 : (name, p2) ∈ getParams um2.item.params um2.op.params pl)
    (hq : ∀ l : Loc, l.response = 0 →
      Q { loc := l, code := addedCode p2, compat := getCompatibilityForChange (addedCode p2) (l.response > 0) }) :
    Reports Q (analyse fl n a b) := by
  refine analyse_has_of_request fl n a b (analyseRequestParams_has _ n _ _ pl hpl um2 e.mem
    (umStep_has_cmp _ n _ pl um1 um2 e.find (name, p2) h2 (fun st => ?_)))
  rw [cmpParamStep_none h1]
  exact Holds.skip (fun nd => addDiff_has _ _ _ _ (hq _ rfl))

theorem analyse_has_deleted_param (fl : Flags) (n : Nat) (a b : Spec) (pl : String) (hpl : pl ∈ paramLocations)
    {um1 um2 : UM} (e : SharedEndpoint a b um1 um2)
    (name : String) (p1 : Param)
    (h1 : (name, p1) ∈ getParams um1.item.params um1.op.params pl)
    (h2 : lookup (getParams um2.item.params um2.op.params pl) name = none)
    (hq : ∀ l : Loc, l.response = 0 →
      Q { loc := l, code := deletedCode p1, compat := getCompatibilityForChange (deletedCode p1) (l.response > 0) }) :
    Reports Q (analyse fl n a b) := by
  refine analyse_has_of_request fl n a b (analyseRequestParams_has _ n _ _ pl hpl um2 e.mem
    (umStep_has_del _ n _ pl um1 um2 e.find (name, p1) h1 (fun st => ?_)))
  rw [delParamStep_none (lookup_none_hasKey _ _ h2)]
  exact Holds.skip (fun nd => addDiff_has _ _ _ _ (hq _ rfl))

theorem analyse_has_added_response (fl : Flags) (n : Nat) (a b : Spec) {um1 um2 : UM} (e : SharedEndpoint a b um1 um2)
    (resp2 : Response) (hr2 : resp2 ∈ um2.op.responses)
    (hnew : findResp um1.op.responses resp2.code = none)
    (hq : ∀ l : Loc, l.response = resp2.code →
      Q { loc := l, code := Code.AddedResponse, compat := getCompatibilityForChange Code.AddedResponse (l.response > 0) }) :
    Reports Q (analyse fl n a b) := by
  refine analyse_has_of_response fl n a b (analyseResponseParams_has _ n _ _ um2 e.mem
    (respStep_has_rest _ n _ um1 um2 e.find resp2 hr2 (fun st => ?_)))
  rw [respRestStep_none hnew]
  exact Holds.skip (fun nd => addDiff_has _ _ _ _ (hq _ rfl))

theorem analyse_has_deleted_response (fl : Flags) (n : Nat) (a b : Spec) {um1 um2 : UM} (e : SharedEndpoint a b um1 um2)
    (resp1 : Response) (hr1 : resp1 ∈ um1.op.responses)
    (hgone : findResp um2.op.responses resp1.code = none)
    (hq : ∀ l : Loc, l.response = resp1.code →
      Q { loc := l, code := Code.DeletedResponse, compat := getCompatibilityForChange Code.DeletedResponse (l.response > 0) }) :
    Reports Q (analyse fl n a b) := by
  refine analyse_has_of_response fl n a b (analyseResponseParams_has _ n _ _ um2 e.mem
    (respStep_has_del _ n _ um1 um2 e.find resp1 hr1 (fun st => ?_)))
  rw [delRespStep_gone hgone]
  exact Holds.skip (fun nd => addDiff_has _ _ _ _ (hq _ rfl))


theorem compareSchema_hits_root (cx : Ctx) (n : Nat) (loc : Loc) (hl : loc.response = 0) (s1 s2 : Schema) (st : St)
    (h1 : s1.ref = "") (h2 : s2.ref = "")
    (ds : List TDiff) (hcmp : compareProps n s1 s2 = .ok ds)
    (td : TDiff) (htd : td ∈ ds) (hne : td.change ≠ Code.NoChangeDetected) (hq : OfChange Q td.change) :
    Holds (Has Q) (compareSchema cx (n+1) loc (some s1) (some s2) st) := by
  have hne' : ds.isEmpty = false := by
    cases ds with
    | nil => cases htd
    | cons _ _ => rfl
  rw [compareSchema_norefs cx n loc s1 s2 st h1 h2, hcmp, ok_bind', hne']
  exact addDiffs_has loc hl td hne hq ds _ htd

theorem compareParams_hits_schema (cx : Ctx) (n : Nat) (url method location name : String) (p1 p2 : Param) (st : St)
    (sc1 sc2 : Schema) (e1 : p1.schema = some sc1) (e2 : p2.schema = some sc2)
    (hhit : ∀ cl st', cl.response = 0 → Holds (Has Q) (compareSchema cx n cl (some sc1) (some sc2) st')) :
    Holds (Has Q) (compareParams cx n url method location name p1 p2 st) := by
  unfold compareParams
  simp only [e1, e2]
  refine Holds.bind (P := fun (r : Loc × St) => Has Q r.2) ?_ (fun r hr => ?_)
  · refine Holds.bind (P := fun (cl : Loc) => cl.response = 0) ?_ (fun cl hcl => ?_)
    · split
      · exact Holds.skip (fun nd => rfl)
      · rfl
    · exact (hhit cl _ hcl).bind (fun st' hb => hb)
  · refine Holds.skip (fun diffs => ?_)
    refine Holds.skip (fun nd => ?_)
    exact (hr.le (addDiffs_le.trans addDiffs_le)).keep (compareSimpleSchema_grows _ _ _ _)

/-- **Lifting, request body.** An entry that compareSchema records for the two body schemas of a parameter both documents
    have is in every report. -/
theorem analyse_has_body_change (fl : Flags) (n : Nat) (a b : Spec) (pl : String) (hpl : pl ∈ paramLocations)
    {um1 um2 : UM} (e : SharedEndpoint a b um1 um2)
    (name : String) (p1 p2 : Param)
    (hp1 : lookup (getParams um1.item.params um1.op.params pl) name = some p1)
    (hp2 : (name, p2) ∈ getParams um2.item.params um2.op.params pl)
    (sc1 sc2 : Schema) (e1 : p1.schema = some sc1) (e2 : p2.schema = some sc2)
    (hhit : ∀ cl st', cl.response = 0 →
      Holds (Has Q) (compareSchema (ctxOf fl a b) n cl (some sc1) (some sc2) st')) :
    Reports Q (analyse fl n a b) :=
  analyse_has_of_request fl n a b (analyseRequestParams_has _ n _ _ pl hpl um2 e.mem
    (umStep_has_cmp _ n _ pl um1 um2 e.find (name, p2) hp2 (fun b' => by
      rw [cmpParamStep_some hp1]
      exact compareParams_hits_schema _ n _ _ _ _ p1 p2 b' sc1 sc2 e1 e2 hhit)))

theorem addChildDiffNode_response (n : Nat) (l : Loc) (name : String) (s : Schema) :
    Holds (fun l' => l'.response = l.response) (addChildDiffNode n l name s) :=
  Holds.skip (fun _ => rfl)

theorem compareProperties_hits (cx : Ctx) (m n : Nat) (loc : Loc) (hl : loc.response = 0)
    (t1 t2 : Schema) (hp : (!t1.hasProps && !t2.hasProps) = false) (st : St)
    (pr1 pr2 : List (String × PropDefn) × List String)
    (e1 : propertiesFor cx.defs1 n t1 = .ok pr1) (e2 : propertiesFor cx.defs2 n t2 = .ok pr2)
    (name : String) (pd1 pd2 : PropDefn) (hmem : (name, pd1) ∈ pr1.1) (hl2 : lookup pr2.1 name = some pd2)
    (hhit : ∀ cl st', cl.response = 0 → Holds (Has Q) (compareSchema cx m cl (some pd1.schema) (some pd2.schema) st')) :
    Holds (Has Q) (compareProperties cx (compareSchema cx m) n loc t1 t2 st) := by
  unfold compareProperties
  simp only [hp, Bool.false_eq_true, if_false, e1, e2, ok_bind']
  refine Holds.bind (P := fun (r : St × List (Loc × Code)) => Has Q r.1) ?_ (fun r hr => ?_)
  · refine foldlM_reach (fun (r : St × List (Loc × Code)) => Has Q r.1) _ (name, pd1) _ (it_mem.mpr hmem) ?_ ?_ _
    · intro acc
      rw [propStep_some hl2]
      refine (addChildDiffNode_response n loc name pd1.schema).bind (fun childLoc hcl => ?_)
      exact (hhit childLoc acc.1 (hcl.trans hl)).bind (fun st' hb => hb)
    · intro acc kv hacc
      exact (propStep_grows cx m n loc pr2.1 acc kv).mono (fun r hs => hacc.le hs)
  · refine Holds.skip (fun pd => ?_)
    exact hr.le (foldl_le (fun _ _ => addDiff_le))

/-- an inline object schema: no `$ref`, no allOf, a properties map, not an array -/
structure PlainObject (s : Schema) : Prop where
  noref : s.ref = ""
  noallof : s.allOf = []
  hasprops : s.hasProps = true
  notarray : isArrayType s.type = false

/-- compareSchema on two inline objects reaches a property both have: the entry for a difference CompareProps finds on that
    property (itself `$ref`-free) is recorded -/
theorem compareSchema_hits_property (cx : Ctx) (n : Nat) (loc : Loc) (hl : loc.response = 0) (s1 s2 : Schema) (st : St)
    (o1 : PlainObject s1) (o2 : PlainObject s2) (hroot : compareProps (n+1) s1 s2 = .ok [])
    (name : String) (p1 p2 : Schema) (m1 : (name, p1) ∈ s1.props) (m2 : (name, p2) ∈ s2.props)
    (u1 : ∀ y ∈ s1.props, y.1 = name → y = (name, p1)) (u2 : ∀ y ∈ s2.props, y.1 = name → y = (name, p2))
    (r1 : p1.ref = "") (r2 : p2.ref = "")
    (ds : List TDiff) (hcmp : compareProps n p1 p2 = .ok ds)
    (td : TDiff) (htd : td ∈ ds) (hne : td.change ≠ Code.NoChangeDetected) (hq : OfChange Q td.change) :
    Holds (Has Q) (compareSchema cx (n+2) loc (some s1) (some s2) st) := by
  rw [compareSchema_norefs cx (n+1) loc s1 s2 st o1.noref o2.noref, hroot, ok_bind']
  simp only [List.isEmpty_nil, Bool.not_true, Bool.false_eq_true, if_false, compareItems_notarray _ _ _ _ _ _ o1.notarray, ok_bind']
  let g1 := fun (kv : String × Schema) => (kv.1, ({ schema := kv.2, required := s1.required.contains kv.1 } : PropDefn))
  let g2 := fun (kv : String × Schema) => (kv.1, ({ schema := kv.2, required := s2.required.contains kv.1 } : PropDefn))
  have l1 := foldl_upsert_lookup g1 s1.props [] (name, p1) m1 (fun y hy e => u1 y hy e)
  have l2 := foldl_upsert_lookup g2 s2.props [] (name, p2) m2 (fun y hy e => u2 y hy e)
  refine compareProperties_hits cx (n+1) (n+1) loc hl s1 s2 (by simp [o1.hasprops]) _
    _ _ (propertiesFor_plain cx.defs1 n s1 o1.noref o1.noallof o1.hasprops) (propertiesFor_plain cx.defs2 n s2 o2.noref o2.noallof o2.hasprops)
    name _ _ (lookup_mem _ _ _ l1) l2 ?_
  intro cl st' hcl
  exact compareSchema_hits_root cx n cl hcl p1 p2 st' r1 r2 ds hcmp td htd hne hq

end Gs.Diff
