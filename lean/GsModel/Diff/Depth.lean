import GsModel.Diff.Valid
/-
  C12 (termination), the hypothesis: how deep a schema is.  Three measures, each `false` at depth 0:
    * `fitsD d n s` — following `$ref`s through the definitions `d` (false at every `n` for recursive definitions);
    * `fitsL n s`   — the schema's own nesting, `$ref`s not followed (what the type-name helpers walk);
    * `fitsP d n s` — its allOf ancestry, `$ref`s followed (what propertiesFor walks).
  The first implies the other two.  `Spec.fitsB` is the computable check the driver evaluates on every document.
  `Term P x`: `x` does not run out of fuel and, if it returns, the result satisfies `P` (panics are the business of the
  totality argument).
-/
namespace Gs.Diff
open Gs Gs.Gen Gs.Outcome

def Term {α} (P : α → Prop) : Outcome α → Prop
  | .ok a => P a
  | .panic _ => True
  | .fuel => False

abbrev NoFuel {α} (x : Outcome α) : Prop := Term (fun _ => True) x

@[simp] theorem term_ok {α} (P : α → Prop) (a : α) : Term P (.ok a) = P a := rfl
@[simp] theorem term_panic {α} (P : α → Prop) (w : String) : Term P (.panic w) = True := rfl
@[simp] theorem term_fuel {α} (P : α → Prop) : Term P (.fuel : Outcome α) = False := rfl

theorem Term.mono {α} {P Q : α → Prop} {x : Outcome α} (hx : Term P x) (h : ∀ a, P a → Q a) : Term Q x := by
  cases x with
  | ok a => exact h a hx
  | panic w => trivial
  | fuel => exact hx

theorem _root_.Gs.Outcome.Meets.term {α} {V : Prop} {P : α → Prop} {x : Outcome α} (hx : Meets V True P x) : Term P x := by
  cases x with
  | ok a => exact hx
  | panic w => trivial
  | fuel => exact hx trivial

/-- a depth measure that is false at depth 0 and whose step is monotone in the measure of the level below is monotone in
    the depth -/
theorem depth_le {P : Nat → Schema → Bool} (h0 : ∀ s, P 0 s = false)
    (step : ∀ {k n : Nat}, (∀ c, P k c = true → P n c = true) → ∀ s, P (k+1) s = true → P (n+1) s = true)
    {k n : Nat} (s : Schema) (h : P k s = true) (hkn : k ≤ n) : P n s = true := by
  induction k generalizing n s with
  | zero => rw [h0] at h; cases h
  | succ k ih =>
    cases n with
    | zero => exact absurd hkn (Nat.not_succ_le_zero k)
    | succ n => exact step (fun c hc => ih c hc (Nat.le_of_succ_le_succ hkn)) s h

/-- the schema, with every `$ref` followed, is at most `n` levels deep (false for recursive definitions at every `n`) -/
def fitsD (d : Defs) : Nat → Schema → Bool
  | 0, _ => false
  | n+1, s =>
    (if s.ref = "" then true else match lookup d s.ref with | some t => fitsD d n t | none => true) &&
    s.children.all (fitsD d n)

theorem fitsD_le (d : Defs) {k n : Nat} (s : Schema) (h : fitsD d k s = true) (hkn : k ≤ n) : fitsD d n s = true := by
  refine depth_le (fun _ => rfl) (fun ih s h => ?_) s h hkn
  rw [fitsD] at h ⊢
  simp only [Bool.and_eq_true, List.all_eq_true] at h ⊢
  refine ⟨?_, fun c hc => ih c (h.2 c hc)⟩
  have h1 := h.1
  by_cases hr : s.ref = ""
  · rw [if_pos hr]
  · rw [if_neg hr] at h1 ⊢
    revert h1
    cases lookup d s.ref with
    | none => exact fun _ => rfl
    | some t => exact ih t

theorem fitsD_child {d : Defs} {n : Nat} {s c : Schema} (h : fitsD d (n+1) s = true) (hc : c ∈ s.children) : fitsD d n c = true := by
  rw [fitsD] at h
  simp only [Bool.and_eq_true, List.all_eq_true] at h
  exact h.2 c hc

theorem fitsD_target {d : Defs} {n : Nat} {s t : Schema} (h : fitsD d (n+1) s = true) (hr : s.ref ≠ "") (ht : lookup d s.ref = some t) :
    fitsD d n t = true := by
  rw [fitsD] at h
  simp only [Bool.and_eq_true] at h
  simpa [hr, ht] using h.1

theorem fitsD_pos {d : Defs} {n : Nat} {s : Schema} (h : fitsD d n s = true) : ∃ m, n = m + 1 := by
  cases n with
  | zero => simp [fitsD] at h
  | succ m => exact ⟨m, rfl⟩

def fitsL : Nat → Schema → Bool
  | 0, _ => false
  | n+1, s => s.children.all (fitsL n)

/-- the schema propertiesFor reads: the target of a `$ref`, else the schema itself -/
def derefP (d : Defs) (s : Schema) : Option Schema := if s.ref = "" then some s else lookup d s.ref

theorem derefP_noref {d : Defs} {s : Schema} (h : s.ref = "") : derefP d s = some s := if_pos h
theorem derefP_ref {d : Defs} {s : Schema} (h : s.ref ≠ "") : derefP d s = lookup d s.ref := if_neg h

def fitsP (d : Defs) : Nat → Schema → Bool
  | 0, _ => false
  | n+1, s => match derefP d s with
    | some r => r.allOf.all (fitsP d n)
    | none => true

theorem fitsL_le {k n : Nat} (s : Schema) (h : fitsL k s = true) (hkn : k ≤ n) : fitsL n s = true := by
  refine depth_le (fun _ => rfl) (fun ih s h => ?_) s h hkn
  rw [fitsL] at h ⊢
  simp only [List.all_eq_true] at h ⊢
  exact fun c hc => ih c (h c hc)

theorem fitsP_le (d : Defs) {k n : Nat} (s : Schema) (h : fitsP d k s = true) (hkn : k ≤ n) : fitsP d n s = true := by
  refine depth_le (fun _ => rfl) (fun ih s h => ?_) s h hkn
  rw [fitsP] at h ⊢
  revert h
  cases derefP d s with
  | none => exact fun _ => rfl
  | some r =>
    simp only [List.all_eq_true]
    exact fun h c hc => ih c (h c hc)

theorem fitsL_child {n : Nat} {s c : Schema} (h : fitsL (n+1) s = true) (hc : c ∈ s.children) : fitsL n c = true := by
  rw [fitsL] at h
  simp only [List.all_eq_true] at h
  exact h c hc

theorem fitsL_prop {n : Nat} {s : Schema} {kv : String × Schema} (h : fitsL (n+1) s = true) (hi : kv ∈ s.props) : fitsL n kv.2 = true :=
  fitsL_child h (Schema.prop_mem_children hi)

theorem fitsL_pos {n : Nat} {s : Schema} (h : fitsL n s = true) : ∃ m, n = m + 1 := by
  cases n with
  | zero => simp [fitsL] at h
  | succ m => exact ⟨m, rfl⟩

theorem fitsL_of_fitsD {d : Defs} {n : Nat} {s : Schema} (h : fitsD d n s = true) : fitsL n s = true := by
  induction n generalizing s with
  | zero => simp [fitsD] at h
  | succ n ih =>
    rw [fitsL, List.all_eq_true]
    exact fun c hc => ih (fitsD_child h hc)

theorem fitsP_of_fitsD {d : Defs} {n : Nat} {s : Schema} (h : fitsD d n s = true) : fitsP d n s = true := by
  induction n generalizing s with
  | zero => simp [fitsD] at h
  | succ n ih =>
    rw [fitsP]
    cases hr : derefP d s with
    | none => rfl
    | some r =>
      rw [List.all_eq_true]
      intro a ha
      refine ih ?_
      by_cases hne : s.ref = ""
      · cases (derefP_noref hne).symm.trans hr
        exact fitsD_child h (Schema.allOf_mem_children ha)
      · -- the target fits one level less, its allOf members two: lift back
        have ht := fitsD_target h hne ((derefP_ref hne).symm.trans hr)
        obtain ⟨m, rfl⟩ := fitsD_pos ht
        exact fitsD_le d a (fitsD_child ht (Schema.allOf_mem_children ha)) (Nat.le_succ m)

/-- the schema made of a parameter's or a header's own type is two levels deep -/
theorem forChain_fitsL (c : List Simple) {n : Nat} (hn : 2 ≤ n) : fitsL n (forChain c) = true := by
  refine fitsL_le _ ?_ hn
  cases c with
  | nil => rfl
  | cons s rest => cases rest <;> rfl

/-- every schema of the document, `$ref`s followed, is at most `n` levels deep -/
def Spec.fitsB (n : Nat) (s : Spec) : Bool :=
  s.defs.all (fun kv => fitsD s.defs n kv.2) &&
  (getURLMethodsFor s).all (fun u =>
    (u.item.params ++ u.op.params).all (fun p => match p.schema with | none => true | some sc => fitsD s.defs n sc) &&
    u.op.responses.all (fun r => match r.schema with | none => true | some sc => fitsD s.defs n sc))

/-! ### validity at every depth from one evaluation

  `schemaOk` walks a schema's own nesting (`$ref`s are looked up, not followed), so the check to the depth of that nesting
  decides all depths — also for recursive definitions. -/

theorem schemaOk_of_fitsL (d : Defs) {n : Nat} {s : Schema} (hn : fitsL n s = true) (hv : schemaOk d n s = true) (k : Nat) :
    schemaOk d k s = true := by
  induction k generalizing n s with
  | zero => rfl
  | succ k ih =>
    obtain ⟨n, rfl⟩ := fitsL_pos hn
    simp only [schemaOk, Bool.and_eq_true, List.all_eq_true] at hv ⊢
    exact ⟨hv.1, fun c hc => ih (fitsL_child hn hc) (hv.2 c hc)⟩

/-- every schema of the document is at most `n` levels deep in itself -/
def Spec.nestB (n : Nat) (s : Spec) : Bool :=
  s.defs.all (fun kv => fitsL n kv.2) &&
  (getURLMethodsFor s).all (fun u =>
    (u.item.params ++ u.op.params).all (fun p => match p.schema with | none => true | some sc => fitsL n sc) &&
    u.op.responses.all (fun r => match r.schema with | none => true | some sc => fitsL n sc))

theorem Spec.validB_of_nestB (n : Nat) (s : Spec) (hn : s.nestB n = true) (hv : s.validB n = true) (k : Nat) :
    s.validB k = true := by
  simp only [Spec.nestB, Spec.validB, Param.okB, Response.okB, Bool.and_eq_true, List.all_eq_true, List.mem_append] at hn hv ⊢
  -- `hv` (and the goal): `.1` the definitions, `.2 u hu` an endpoint with `.1.1` / `.1.2` its path-level / own parameters and `.2` its
  -- responses, each a pair of chains (`.1`) and body schema (`.2`); `hn`: `.1`, then `.2 u hu` with `.1` parameters, `.2` responses
  have opt : ∀ (o : Option Schema), (match o with | none => true | some sc => fitsL n sc) = true →
      (match o with | none => true | some sc => schemaOk s.defs n sc) = true →
      (match o with | none => true | some sc => schemaOk s.defs k sc) = true := by
    intro o h1 h2
    cases o with
    | none => rfl
    | some sc => exact schemaOk_of_fitsL s.defs h1 h2 k
  refine ⟨fun kv hkv => schemaOk_of_fitsL s.defs (hn.1 kv hkv) (hv.1 kv hkv) k, fun u hu => ⟨⟨fun p hp => ?_, fun p hp => ?_⟩, fun r hr => ?_⟩⟩
  · exact ⟨((hv.2 u hu).1.1 p hp).1, opt _ ((hn.2 u hu).1 p (Or.inl hp)) ((hv.2 u hu).1.1 p hp).2⟩
  · exact ⟨((hv.2 u hu).1.2 p hp).1, opt _ ((hn.2 u hu).1 p (Or.inr hp)) ((hv.2 u hu).1.2 p hp).2⟩
  · exact ⟨((hv.2 u hu).2 r hr).1, opt _ ((hn.2 u hu).2 r hr) ((hv.2 u hu).2 r hr).2⟩

end Gs.Diff
