import GsModel.Diff.SelfLemmas
import GsModel.Diff.Walk
/-
  C12 (identity): run on equal arguments, `compareSchema` and every pass of `Analyse` leave the list of differences as it
  was (`KeepsD`), so the report of a well-formed document against itself is empty (`analyse_self`).  Well-formedness
  (distinct keys wherever a list stands for a Go map) is what makes every look-up of an element find that element.
  (Not an instance of the walk of Diff/Walk.lean: there the state may grow by any entry, here every leaf has to be shown to
  add none, which takes the value each comparator returns on equal arguments — Diff/SelfLemmas.lean.)
-/
namespace Gs.Diff
open Gs Gs.Gen Gs.Outcome

abbrev KeepsD (st : St) (x : Outcome St) : Prop := Holds (fun st' => st'.diffs = st.diffs) x

theorem KeepsD.bind {st : St} {x : Outcome St} {f : St → Outcome St} (hx : KeepsD st x) (hf : ∀ st', KeepsD st' (f st')) :
    KeepsD st (x.bind f) :=
  Holds.bind hx (fun st' h => (hf st').mono (fun _ h' => h'.trans h))

theorem foldlM_keeps {α} (f : St → α → Outcome St) (l : List α) (st : St) (hf : ∀ b a, a ∈ l → KeepsD b (f b a)) :
    KeepsD st (foldlM f st l) :=
  foldlM_holds (fun (s : St) => s.diffs = st.diffs) f l st rfl (fun b a ha hb => (hf b a ha).mono (fun _ h => h.trans hb))

theorem findUM_isNone_of_mem {u : List UM} {a : UM} (ha : a ∈ u) : (findUM u a.url a.method).isNone = false :=
  Option.isNone_eq_false_iff.mpr (findBy_of_mem UM.key u a ha)

theorem findUM_distinct {u : List UM} (hu : distinctBy UM.key u = true) {a : UM} (ha : a ∈ u) : findUM u a.url a.method = some a :=
  findBy_distinct UM.key u hu a ha

/-- the merged property map is built with `upsert` only -/
theorem propertiesFor_distinct (d : Defs) (n : Nat) (s : Schema) : Holds (fun r => keysDistinct r.1) (propertiesFor d n s) := by
  induction n generalizing s with
  | zero => trivial
  | succ n ih =>
    unfold propertiesFor
    refine Holds.skip (fun r => ?_)
    refine foldlM_holds (fun (acc : List (String × PropDefn) × List String) => keysDistinct acc.1) _ _ _ ?_ ?_
    · dsimp only
      split
      · exact foldl_upsert_distinct (fun (kv : String × Schema) => (kv.1, ({ schema := kv.2, required := r.1.required.contains kv.1 } : PropDefn))) _ [] trivial
      · trivial
    · intro acc a _ hacc
      exact (ih a).bind (fun m _ => foldl_upsert_distinct (fun (kv : String × PropDefn) => (kv.1, kv.2)) _ _ hacc)

abbrev CmpSelf (cmp : Cmp) : Prop := ∀ loc os st, KeepsD st (cmp loc os os st)

theorem compareItems_self (cmp : Cmp) (hc : CmpSelf cmp) (n : Nat) (loc : Loc) (t : Schema) (st : St) :
    KeepsD st (compareItems cmp n loc t t st) := by
  unfold compareItems
  by_cases h : isArrayType t.type = true
  · simp only [h, if_true]
    split
    · exact hc _ _ _
    · rfl
  · rw [if_neg h]
    rfl

theorem propStep_self (cmp : Cmp) (hc : CmpSelf cmp) (n : Nat) (loc : Loc) (props : List (String × PropDefn))
    (hp : keysDistinct props) (st0 : St) (acc : St × List (Loc × Code)) (kv : String × PropDefn) (hkv : kv ∈ props)
    (hacc : acc.1.diffs = st0.diffs ∧ acc.2 = []) :
    Holds (fun (r : St × List (Loc × Code)) => r.1.diffs = st0.diffs ∧ r.2 = []) (propStep cmp n loc props acc kv) := by
  rw [propStep_some (lookup_distinct props hp kv hkv)]
  refine Holds.skip (fun childLoc => ?_)
  simp only [checkToFromRequired_self, List.map_nil, List.append_nil]
  exact Holds.bind (hc childLoc (some kv.2.schema) acc.1) (fun st' hst' => ⟨hst'.trans hacc.1, hacc.2⟩)

theorem addedStep_self (n : Nat) (loc : Loc) (t : Schema) (props2 : List (String × PropDefn))
    (acc : List (Loc × Code)) (kv : String × Schema) (hkv : kv ∈ (if t.hasProps then t.props else [])) (hacc : acc = []) :
    Holds (fun r => r = []) (addedStep n loc t props2 acc kv) := by
  unfold addedStep
  by_cases hh : t.hasProps = true
  · simp only [hh, if_true] at hkv
    simp [hh, hasKey_of_mem t.props kv hkv, hacc]
  · simp [hh] at hkv

theorem compareProperties_self (cx : Ctx) (hd : cx.defs1 = cx.defs2) (cmp : Cmp) (hc : CmpSelf cmp) (n : Nat) (loc : Loc)
    (t : Schema) (st : St) : KeepsD st (compareProperties cx cmp n loc t t st) := by
  unfold compareProperties
  split
  · rfl
  · rw [hd]
    -- both sides have the same merged properties `pr1`
    have hdist := propertiesFor_distinct cx.defs2 n t
    generalize propertiesFor cx.defs2 n t = x at hdist ⊢
    cases x with
    | panic _ => trivial
    | fuel => trivial
    | ok pr1 =>
    refine Holds.bind (P := fun (r : St × List (Loc × Code)) => r.1.diffs = st.diffs ∧ r.2 = []) ?_ ?_
    · refine foldlM_holds _ _ _ _ ⟨by simp, rfl⟩ ?_
      intro acc kv hkv hacc
      exact propStep_self cmp hc n loc pr1.1 hdist st acc kv (it_mem.mp hkv) hacc
    · intro r hr
      refine Holds.bind (P := fun pd => pd = []) ?_ ?_
      · refine foldlM_holds _ _ _ _ hr.2 ?_
        intro acc kv hkv hacc
        exact addedStep_self n loc t pr1.1 acc kv (it_mem.mp hkv) hacc
      · intro pd hpd
        subst hpd
        simpa using hr.1

theorem compareSchema_self (cx : Ctx) (hd : cx.defs1 = cx.defs2) (n : Nat) : CmpSelf (compareSchema cx n) := by
  induction n with
  | zero => exact fun _ _ _ => trivial
  | succ n ih =>
    intro loc os st
    cases os with
    | none => trivial
    | some s =>
    unfold compareSchema
    simp only [checkRefChangeSchema_self, ok_bind', List.isEmpty_nil, Bool.not_true, Bool.false_eq_true, if_false]
    refine (resolveBoth_meets (V := False) (F := False) cx loc nofun s s st).holds.bind ?_
    intro r hr
    match r, hr with
    | none, _ => rfl
    | some (none, _, _), _ => trivial
    | some (some t1, none, _), _ => trivial
    | some (some t1, some t2, st'), ⟨e1, e2, _, hst⟩ =>
      -- both sides resolve to the same schema
      cases Option.some.inj (e1.trans (hd ▸ e2.symm))
      simp only [compareDescripton_self, compareProps_self, ok_bind', List.isEmpty_nil, Bool.not_true,
        Bool.false_eq_true, if_false]
      exact ((compareItems_self _ ih n loc t1 st').bind
        (fun st'' => compareProperties_self cx hd _ ih n loc t1 st'')).mono (fun _ h => h.trans hst)

theorem compareParams_self (cx : Ctx) (hd : cx.defs1 = cx.defs2) (n : Nat) (url method location name : String)
    (p : Param) (st : St) : KeepsD st (compareParams cx n url method location name p p st) := by
  unfold compareParams
  simp only [compareDescripton_self, compareProps_self, ok_bind', addDiffs_nil, checkToFromRequired_self]
  refine Holds.bind (P := fun (r : Loc × St) => r.2.diffs = st.diffs) ?_ ?_
  · cases p.schema with
    | none => simp
    | some sc =>
      refine Holds.skip (fun cl => ?_)
      exact Holds.bind (compareSchema_self cx hd n cl (some sc) st) (fun st' h => h)
  · intro r hr
    refine Holds.skip (fun nd => ?_)
    exact (compareSimpleSchema_self _ p.chain r.2).mono (fun a ha => ha.trans hr)

theorem umStep_self (cx : Ctx) (hd : cx.defs1 = cx.defs2) (n : Nat) (u : List UM) (hu : distinctBy UM.key u = true)
    (pl : String) (st : St) (um2 : UM) (hum : um2 ∈ u) : KeepsD st (umStep cx n u pl st um2) := by
  rw [umStep_some (findUM_distinct hu hum)]
  refine KeepsD.bind (foldlM_keeps _ _ _ (fun b kv hkv => ?_)) (fun st1 => foldlM_keeps _ _ _ (fun b kv hkv => ?_))
  · simp [delParamStep, hasKey_of_mem _ kv (it_mem.mp hkv)]
  · rw [cmpParamStep_some (lookup_distinct _ (getParams_distinct _ _ _) kv (it_mem.mp hkv))]
    exact compareParams_self cx hd n _ _ _ _ kv.2 b

theorem analyseRequestParams_self (cx : Ctx) (hd : cx.defs1 = cx.defs2) (n : Nat) (u : List UM)
    (hu : distinctBy UM.key u = true) (st : St) : KeepsD st (analyseRequestParams cx n u u st) := by
  rw [analyseRequestParams_eq]
  exact foldlM_keeps _ _ _ (fun b pl _ => foldlM_keeps _ _ _
    (fun b' um2 hum => umStep_self cx hd n u hu pl b' um2 (it_mem.mp hum)))

theorem respRestStep_self (cx : Ctx) (hd : cx.defs1 = cx.defs2) (n : Nat) (r : List Response)
    (hr : distinctBy (fun (r : Response) => r.code) r = true)
    (hh : ∀ resp ∈ r, distinctBy (fun (h : Header) => h.name) resp.headers = true)
    (base : Loc) (st : St) (resp2 : Response) (hresp : resp2 ∈ r) : KeepsD st (respRestStep cx n r base st resp2) := by
  rw [respRestStep_some (findBy_distinct (fun (r : Response) => r.code) _ hr resp2 hresp)]
  refine KeepsD.bind (foldlM_keeps _ _ _ (fun b h2 hh2 => ?_)) (fun st1 => ?_)
  · have : findHeader resp2.headers h2.name = some h2 :=
      findBy_distinct (fun (h : Header) => h.name) _ (hh resp2 hresp) h2 (it_mem.mp hh2)
    simp [hdrStep, this]
  refine KeepsD.bind (foldlM_keeps _ _ _ (fun b h1 hh1 => ?_)) (fun st2 => ?_)
  · have : (findHeader resp2.headers h1.name).isSome = true :=
      findBy_of_mem (fun (h : Header) => h.name) _ h1 (it_mem.mp hh1)
    simp [delHdrStep, this]
  unfold respBodyStep
  refine Holds.skip (fun nd => ?_)
  simp only [compareDescripton_self]
  cases resp2.schema with
  | none => exact rfl
  | some s2 =>
    refine Holds.skip (fun nd' => ?_)
    exact compareSchema_self cx hd n _ (some s2) st2

theorem respStep_self (cx : Ctx) (hd : cx.defs1 = cx.defs2) (n : Nat) (u : List UM) (hu : distinctBy UM.key u = true)
    (hr : ∀ um ∈ u, distinctBy (fun (r : Response) => r.code) um.op.responses = true ∧
        ∀ r ∈ um.op.responses, distinctBy (fun (h : Header) => h.name) r.headers = true)
    (st : St) (um2 : UM) (hum : um2 ∈ u) : KeepsD st (respStep cx n u st um2) := by
  rw [respStep_some (findUM_distinct hu hum)]
  refine KeepsD.bind (foldlM_keeps _ _ _ (fun b resp1 hresp => ?_)) (fun st1 => foldlM_keeps _ _ _ (fun b resp2 hresp => ?_))
  · have : (findResp um2.op.responses resp1.code).isSome = true :=
      findBy_of_mem (fun (r : Response) => r.code) _ resp1 (it_mem.mp hresp)
    simp [delRespStep, this]
  · exact respRestStep_self cx hd n _ (hr um2 hum).1 (hr um2 hum).2 _ b resp2 (it_mem.mp hresp)

theorem analyseResponseParams_self (cx : Ctx) (hd : cx.defs1 = cx.defs2) (n : Nat) (u : List UM)
    (hu : distinctBy UM.key u = true)
    (hr : ∀ um ∈ u, distinctBy (fun (r : Response) => r.code) um.op.responses = true ∧
        ∀ r ∈ um.op.responses, distinctBy (fun (h : Header) => h.name) r.headers = true)
    (st : St) : KeepsD st (analyseResponseParams cx n u u st) := by
  rw [analyseResponseParams_eq]
  exact foldlM_keeps _ _ _ (fun b um2 hum => respStep_self cx hd n u hu hr b um2 (it_mem.mp hum))

theorem analyseDefinitions_self (cx : Ctx) (hd : cx.defs1 = cx.defs2) (hk : keysDistinct cx.defs1) (n : Nat) (st : St) :
    KeepsD st (analyseDefinitions cx n st) := by
  unfold analyseDefinitions
  refine Holds.bind (P := fun (s : St) => s.diffs = st.diffs) (foldlM_keeps _ _ _ (fun b kv hkv => ?_)) (fun st1 h1 => ?_)
  · split
    · exact rfl
    · rw [← hd, lookup_distinct _ hk kv (it_mem.mp hkv)]
      exact compareSchema_self cx hd n _ (some kv.2) b
  · refine foldl_inv (fun (s : St) => s.diffs = st.diffs) _ _ _ h1 ?_
    intro b kv hkv hb
    rw [← hd] at hkv
    simp [hasKey_of_mem _ kv (it_mem.mp hkv), hb]

theorem analyseSpecMetadata_self (s : Spec) (st : St) : analyseSpecMetadata s s st = st := by
  simp [analyseSpecMetadata, analyseMetaDataProperty]

theorem findDeletedEndpoints_self (rev : Nat) (u : List UM) (st : St) : findDeletedEndpoints rev u u st = st := by
  refine foldl_inv (fun s => s = st) _ _ _ rfl (fun b a ha hb => ?_)
  simpa only [findUM_isNone_of_mem (it_mem.mp ha), Bool.false_eq_true, if_false] using hb

theorem findAddedEndpoints_self (rev : Nat) (u : List UM) (st : St) : findAddedEndpoints rev u u st = st := by
  refine foldl_inv (fun s => s = st) _ _ _ rfl (fun b a ha hb => ?_)
  simpa only [findUM_isNone_of_mem (it_mem.mp ha), Bool.false_eq_true, if_false] using hb

theorem analyseEndpointData_self (rev : Nat) (u : List UM) (hu : distinctBy UM.key u = true) (st : St) :
    analyseEndpointData rev u u st = st := by
  refine foldl_inv (fun s => s = st) _ _ _ rfl (fun b a ha hb => ?_)
  simp only [findUM_distinct hu (it_mem.mp ha), diffsTo_self_opt, List.foldl_nil, compareDescripton_self]
  exact hb

/-- **Identity.** For every well-formed document, every fuel and every iteration order, a normal return of the analyser on
    the document and itself is the empty report. -/
theorem analyse_self (fl : Flags) (n : Nat) (s : Spec) (hw : s.wf = true) : Holds (fun ds => ds = []) (analyse fl n s s) := by
  unfold Spec.wf at hw
  simp only [Bool.and_eq_true, List.all_eq_true] at hw
  obtain ⟨⟨hu, hdefs⟩, hresp⟩ := hw
  unfold analyse
  simp only [analyseSpecMetadata_self, findDeletedEndpoints_self, findAddedEndpoints_self]
  refine Holds.bind (analyseRequestParams_self _ rfl n _ hu _) (fun st1 h1 => ?_)
  rw [analyseEndpointData_self _ _ hu]
  refine Holds.bind (analyseResponseParams_self _ rfl n _ hu hresp st1) (fun st2 h2 => ?_)
  refine Holds.bind (analyseDefinitions_self _ rfl (keysDistinct_of_distinctBy _ hdefs) n st2) (fun st3 h3 => ?_)
  exact h3.trans (h2.trans h1)

end Gs.Diff
