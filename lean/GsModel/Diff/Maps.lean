import GsModel.Base.Hoare
import GsModel.Diff.Analyser
/-
  Facts about the lists that stand for Go maps in the analyser: the iteration orders `it`, `upsert` (map write),
  `lookup` / `hasKey` / `findBy` (map read), `getParams`.
-/
namespace Gs.Diff
open Gs Gs.Gen Gs.Outcome

theorem mem_drop_take {α} (k : Nat) (l : List α) (x : α) : x ∈ l.drop k ++ l.take k ↔ x ∈ l := by
  conv => rhs; rw [← List.take_append_drop k l]
  simp only [List.mem_append]
  exact Or.comm

theorem it_mem {α} {ord : Nat} {l : List α} {x : α} : x ∈ it ord l ↔ x ∈ l := by
  unfold it
  simp only [mem_drop_take]
  split <;> simp

theorem mem_upsert {α} {m : List (String × α)} {k : String} {v : α} {kv : String × α} (h : kv ∈ upsert m k v) :
    kv = (k, v) ∨ kv ∈ m := by
  induction m with
  | nil => exact .inl (List.mem_singleton.mp h)
  | cons hd tl ih =>
    obtain ⟨k', v'⟩ := hd
    rw [upsert] at h
    by_cases e : k' = k
    · rw [if_pos e] at h
      rcases List.mem_cons.mp h with h | h
      · exact .inl (e ▸ h)
      · exact .inr (List.mem_cons_of_mem _ h)
    · rw [if_neg e] at h
      rcases List.mem_cons.mp h with h | h
      · exact .inr (h ▸ List.mem_cons_self)
      · exact (ih h).imp_right (List.mem_cons_of_mem _)

theorem upsert_distinct {α} (m : List (String × α)) (k : String) (v : α) (h : keysDistinct m) : keysDistinct (upsert m k v) := by
  induction m with
  | nil => exact ⟨nofun, trivial⟩
  | cons hd tl ih =>
    obtain ⟨k', v'⟩ := hd
    rw [upsert]
    by_cases e : k' = k
    · rw [if_pos e]
      exact h
    · rw [if_neg e]
      refine ⟨fun kv hkv => ?_, ih h.2⟩
      rcases mem_upsert hkv with rfl | hkv
      · exact fun e' => e e'.symm
      · exact h.1 kv hkv

theorem upsert_all {α} (Q : α → Prop) (m : List (String × α)) (k : String) (v : α) (hm : ∀ kv ∈ m, Q kv.2) (hv : Q v) :
    ∀ kv ∈ upsert m k v, Q kv.2 :=
  fun kv h => (mem_upsert h).elim (fun e => e ▸ hv) (hm kv)

theorem foldl_upsert_distinct {α β} (g : β → String × α) (l : List β) (m : List (String × α)) (h : keysDistinct m) :
    keysDistinct (l.foldl (fun acc x => upsert acc (g x).1 (g x).2) m) :=
  foldl_inv keysDistinct _ l m h (fun b _ _ hb => upsert_distinct b _ _ hb)

theorem foldl_upsert_all {α β} (Q : α → Prop) (g : β → String × α) (l : List β) (m : List (String × α))
    (hm : ∀ kv ∈ m, Q kv.2) (hl : ∀ x ∈ l, Q (g x).2) :
    ∀ kv ∈ l.foldl (fun acc x => upsert acc (g x).1 (g x).2) m, Q kv.2 :=
  foldl_inv (fun m => ∀ kv ∈ m, Q kv.2) _ l m hm (fun b a ha hb => upsert_all Q b _ _ hb (hl a ha))

theorem lookup_upsert {α} (m : List (String × α)) (k : String) (v : α) (q : String) :
    lookup (upsert m k v) q = if k = q then some v else lookup m q := by
  induction m with
  | nil => rfl
  | cons hd tl ih =>
    obtain ⟨k', v'⟩ := hd
    rw [upsert]
    by_cases e : k' = k
    · subst e
      rw [if_pos rfl]
      simp only [lookup]
      split <;> rfl
    · rw [if_neg e]
      simp only [lookup, ih]
      by_cases e' : k' = q
      · have : k ≠ q := fun ek => e (e'.trans ek.symm)
        simp only [if_pos e', if_neg this]
      · simp only [if_neg e']

/-- a name that the list has once (`hone`: a JSON object has each name once) is found in the merged map with its value -/
theorem foldl_upsert_lookup {α β} (g : β → String × α) (l : List β) (m : List (String × α)) (x : β) (h : x ∈ l)
    (hone : ∀ y ∈ l, (g y).1 = (g x).1 → y = x) :
    lookup (l.foldl (fun acc y => upsert acc (g y).1 (g y).2) m) (g x).1 = some (g x).2 := by
  induction l generalizing m with
  | nil => cases h
  | cons y ys ih =>
    by_cases hx : x ∈ ys
    · exact ih _ hx (fun z hz e => hone z (List.mem_cons_of_mem _ hz) e)
    · obtain rfl : x = y := (List.mem_cons.mp h).resolve_right hx
      -- no later element has this key: the fold over `ys` leaves the entry alone
      refine foldl_inv (fun m' => lookup m' (g x).1 = some (g x).2) _ ys _ ?_ (fun b z hz hb => ?_)
      · rw [lookup_upsert, if_pos rfl]
      · rw [lookup_upsert, if_neg (fun e => hx (hone z (List.mem_cons_of_mem _ hz) e ▸ hz))]
        exact hb

theorem hasKey_of_mem {α} (m : List (String × α)) (kv : String × α) (h : kv ∈ m) : hasKey m kv.1 = true := by
  induction m with
  | nil => cases h
  | cons hd tl ih =>
    obtain ⟨k, v⟩ := hd
    unfold hasKey
    simp only [lookup]
    by_cases e : k = kv.1
    · rw [if_pos e]
      rfl
    · rw [if_neg e]
      exact ih ((List.mem_cons.mp h).resolve_left (fun e' => e (by rw [e'])))

theorem lookup_none_hasKey {α} (m : List (String × α)) (k : String) (h : lookup m k = none) : hasKey m k = false := by
  simp [hasKey, h]

theorem findBy_mem {α β} [DecidableEq β] {key : α → β} {k : β} {l : List α} {x : α} (h : findBy key k l = some x) : x ∈ l :=
  List.mem_of_find?_eq_some h

theorem findBy_of_mem {α β} [DecidableEq β] (key : α → β) (l : List α) (x : α) (h : x ∈ l) :
    (findBy key (key x) l).isSome = true := by
  unfold findBy
  rw [List.find?_isSome]
  exact ⟨x, h, decide_eq_true rfl⟩

theorem findBy_distinct {α β} [DecidableEq β] (key : α → β) (l : List α) (hd : distinctBy key l = true) (x : α) (h : x ∈ l) :
    findBy key (key x) l = some x := by
  unfold findBy
  induction l with
  | nil => cases h
  | cons y ys ih =>
    simp only [distinctBy, Bool.and_eq_true, List.all_eq_true, decide_eq_true_eq] at hd
    rcases List.mem_cons.mp h with rfl | h
    · exact List.find?_cons_of_pos (decide_eq_true rfl)
    · rw [List.find?_cons_of_neg (by simpa using fun e => hd.1 x h e.symm)]
      exact ih hd.2 h

theorem keysDistinct_of_distinctBy {α} (m : List (String × α)) (h : distinctBy (fun (kv : String × α) => kv.1) m = true) :
    keysDistinct m := by
  induction m with
  | nil => trivial
  | cons hd tl ih =>
    simp only [distinctBy, Bool.and_eq_true, List.all_eq_true, decide_eq_true_eq] at h
    exact ⟨fun kv hkv => h.1 kv hkv, ih h.2⟩

/-! ### getParams: path-level parameters overwritten by operation-level ones -/

theorem getParams_distinct (pp op : List Param) (loc : String) : keysDistinct (getParams pp op loc) := by
  have step : ∀ (b : List (String × Param)) (p : Param), keysDistinct b →
      keysDistinct (if p.loc = loc then upsert b p.name p else b) := by
    intro b p hb
    split
    · exact upsert_distinct _ _ _ hb
    · exact hb
  exact foldl_inv keysDistinct _ op _ (foldl_inv keysDistinct _ pp [] trivial (fun b p _ => step b p)) (fun b p _ => step b p)

theorem getParams_all (Q : Param → Prop) (pp op : List Param) (loc : String) (hp : ∀ p ∈ pp, Q p) (ho : ∀ p ∈ op, Q p) :
    ∀ kv ∈ getParams pp op loc, Q kv.2 := by
  have step : ∀ (b : List (String × Param)) (p : Param), Q p → (∀ kv ∈ b, Q kv.2) →
      ∀ kv ∈ (if p.loc = loc then upsert b p.name p else b), Q kv.2 := by
    intro b p hq hb
    split
    · exact upsert_all Q _ _ _ hb hq
    · exact hb
  exact foldl_inv (fun m => ∀ kv ∈ m, Q kv.2) _ op _
    (foldl_inv (fun m => ∀ kv ∈ m, Q kv.2) _ pp [] (fun _ h => by cases h) (fun b p hp' => step b p (hp p hp')))
    (fun b p ho' => step b p (ho p ho'))

end Gs.Diff
