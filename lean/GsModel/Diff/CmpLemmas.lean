import GsModel.Diff.Mirror
/-
  Facts about the generated tables, the small list functions of the analyser and the comparators of checks.go on which
  the property files C13–C15 draw: completeness of `Code.all`, `sortStrs` / `dedup` / `diffsTo`, the cases of `compareIntValues`,
  and the codes of the string and the numeric group of CompareProps written out part by part.
-/
namespace Gs.Gen

theorem Code.all_toNat (c : Code) : Code.all[c.toNat]? = some c := by cases c <;> decide +kernel

theorem Code.mem_all (c : Code) : c ∈ Code.all := List.mem_of_getElem? (Code.all_toNat c)

theorem Compat.mem_all (c : Compat) : c ∈ Compat.all := by cases c <;> decide

/-- the generated lists are complete: a statement about every code is checked on the list, by one evaluation -/
theorem Code.forall_of_all {p : Code → Prop} (h : ∀ c ∈ Code.all, p c) (c : Code) : p c := h c (Code.mem_all c)

theorem Compat.forall_of_all {p : Compat → Prop} (h : ∀ c ∈ Compat.all, p c) (c : Compat) : p c := h c (Compat.mem_all c)

end Gs.Gen

namespace Gs.Diff
open Gs Gs.Gen

theorem insertStr_perm (x : String) (l : List String) : (insertStr x l).Perm (x :: l) := by
  induction l with
  | nil => exact .refl _
  | cons y ys ih =>
    unfold insertStr
    split
    · exact .refl _
    · exact (ih.cons y).trans (.swap x y ys)

theorem sortStrs_perm (l : List String) : (sortStrs l).Perm l := by
  induction l with
  | nil => exact .refl _
  | cons x xs ih => exact (insertStr_perm x _).trans (ih.cons x)

theorem mem_dedup (x : String) (l : List String) : x ∈ dedup l ↔ x ∈ l := by
  induction l with
  | nil => exact Iff.rfl
  | cons y ys ih =>
    simp only [dedup, List.mem_cons, List.mem_filter, ih, ne_eq, decide_eq_true_eq]
    exact ⟨fun h => h.imp_right And.left, fun h => (Decidable.em (x = y)).imp_right fun ne => ⟨h.resolve_left ne, ne⟩⟩

theorem dedup_nodup (l : List String) (h : l.Nodup) : dedup l = l := by
  induction l with
  | nil => rfl
  | cons x xs ih =>
    have ⟨hx, hxs⟩ := List.nodup_cons.mp h
    rw [dedup, ih hxs, List.filter_eq_self.mpr fun y hy => decide_eq_true (p := y ≠ x) fun e => hx (e ▸ hy)]

theorem mem_diffsTo_deleted (x : String) (a b : List String) : x ∈ (diffsTo (some a) b).2 ↔ x ∈ a ∧ x ∉ b := by
  simp only [diffsTo, (sortStrs_perm _).mem_iff, mem_dedup, List.mem_filter, Bool.not_eq_true', List.contains_eq_mem,
    decide_eq_false_iff_not]

theorem compareIntValues_lt {a b : Int} (h : a < b) (g l : Code) :
    compareIntValues (some a) (some b) g l = [{ change := g }] := by
  simp only [compareIntValues, gt_iff_lt, if_pos h]

theorem compareIntValues_gt {a b : Int} (h : b < a) (g l : Code) :
    compareIntValues (some a) (some b) g l = [{ change := l }] := by
  simp only [compareIntValues, gt_iff_lt, if_neg (Int.lt_asymm h), if_pos h]

theorem checkString_codes (t1 t2 : Schema) :
    (checkStringTypeChanges [] t1 t2).map (·.change) =
      if t1.type.head? = some "string" ∧ t2.type.head? = some "string" then
        (compareIntValues t1.v.minLength t2.v.minLength .NarrowedType .WidenedType).map (·.change) ++
        (compareIntValues t1.v.maxLength t2.v.maxLength .WidenedType .NarrowedType).map (·.change) ++
        (if t1.v.pattern ≠ t2.v.pattern then [Code.ChangedType] else []) ++
        (if t1.v.enum.length > 0 then (compareEnums t1.v.enum t2.v.enum).map (·.change) else [])
      else [] := by
  unfold checkStringTypeChanges
  by_cases h : t1.type.head? = some "string" ∧ t2.type.head? = some "string"
  · rw [if_pos h, if_pos (by simp [h.1, h.2])]
    by_cases hp : t1.v.pattern ≠ t2.v.pattern <;> by_cases he : t1.v.enum.length > 0 <;> simp [hp, he, addTD]
  · rw [if_neg h, if_neg (by simpa using h)]; rfl

/-- the codes reported for an `exclusiveMaximum` / `exclusiveMinimum` flag that goes from `x1` to `x2` -/
def exclCodes : Bool → Bool → List Code
  | true, false => [.WidenedType]
  | false, true => [.NarrowedType]
  | _, _ => []

theorem exclCodes_mirror (x1 x2 : Bool) : (exclCodes x2 x1).map mirror = exclCodes x1 x2 := by
  cases x1 <;> cases x2 <;> rfl

/-- the codes of the numeric group: the two exclusive flags, then the bounds, which are compared only when no flag changed -/
theorem checkNumeric_codes (t1 t2 : Schema) :
    (checkNumericTypeChanges [] t1 t2).map (·.change) =
      if isNumeric t1.type = true ∧ isNumeric t2.type = true then
        exclCodes t1.v.exclMax t2.v.exclMax ++ exclCodes t1.v.exclMin t2.v.exclMin ++
        if t1.v.exclMax = t2.v.exclMax ∧ t1.v.exclMin = t2.v.exclMin then
          (compareIntValues t1.v.maximum t2.v.maximum .WidenedType .NarrowedType ++
           compareIntValues t1.v.minimum t2.v.minimum .NarrowedType .WidenedType).map (·.change)
        else []
      else [] := by
  unfold checkNumericTypeChanges compareFloatValues
  by_cases h : isNumeric t1.type = true ∧ isNumeric t2.type = true
  · rw [if_pos h, if_pos (by simp [h.1, h.2])]
    -- with the two bound comparisons opaque, each value of the four flags is a computation
    generalize compareIntValues t1.v.maximum t2.v.maximum .WidenedType .NarrowedType = a,
      compareIntValues t1.v.minimum t2.v.minimum .NarrowedType .WidenedType = b
    cases t1.v.exclMax <;> cases t2.v.exclMax <;> cases t1.v.exclMin <;> cases t2.v.exclMin <;> rfl
  · rw [if_neg h, if_neg (by simpa using h)]; rfl

end Gs.Diff
