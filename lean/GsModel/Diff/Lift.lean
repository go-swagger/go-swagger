import GsModel.Diff.Walk
/-
  C13 / C14, lifting from one step of the analyser to the report: the analyser only ever *appends* to its list of
  differences (`St.Le`, Diff/Walk.lean), so an entry written by one step is still in the report `Analyse` returns; and the
  loops over parameter locations, endpoints, parameters and response codes do reach every element (`foldlM_reach`).
  This file is the plumbing — from "this loop body writes an entry with `Q`" to "every report has an entry with `Q`";
  Diff/Edits.lean applies it to the single edits.
-/
namespace Gs.Diff
open Gs Gs.Gen Gs.Outcome

/-- an entry with the property `Q` is recorded -/
def Has (Q : Diff → Prop) (st : St) : Prop := ∃ d ∈ st.diffs, Q d

/-- every report `x` returns has an entry with the property `Q` -/
abbrev Reports (Q : Diff → Prop) (x : Outcome (List Diff)) : Prop := Holds (fun ds => ∃ d ∈ ds, Q d) x

theorem Has.le {Q : Diff → Prop} {a b : St} (h : Has Q a) (hs : St.Le a b) : Has Q b := by
  obtain ⟨d, hd, hq⟩ := h
  exact ⟨d, hs.sub d hd, hq⟩

theorem Has.keep {Q : Diff → Prop} {st : St} {x : Outcome St} (h : Has Q st) (hx : Holds (St.Le st) x) : Holds (Has Q) x :=
  hx.mono (fun _ hs => h.le hs)

theorem addDiff_has {Q : Diff → Prop} (st : St) (loc : Loc) (c : Code) (info : String)
    (h : Q { loc := loc, code := c, compat := getCompatibilityForChange c (loc.response > 0), info := info }) :
    Has Q (st.addDiff loc c info) :=
  ⟨_, List.mem_append_right _ (List.mem_singleton_self _), h⟩

/-- if one element's step establishes `Q` and every step preserves it, the fold establishes it -/
theorem foldlM_reach {α β} (Q : β → Prop) (f : β → α → Outcome β) (x : α) :
    ∀ (l : List α), x ∈ l → (∀ b, Holds Q (f b x)) → (∀ b a, Q b → Holds Q (f b a)) → ∀ b, Holds Q (foldlM f b l) := by
  intro l h hhit hpres
  induction l with
  | nil => cases h
  | cons a as ih =>
    intro b
    rcases List.mem_cons.mp h with rfl | h
    · exact (hhit b).bind (fun b' hb' => foldlM_holds Q f as b' hb' (fun b a _ hb => hpres b a hb))
    · exact Holds.skip (fun b' => ih h b')

theorem foldl_reach {α β} (Q : β → Prop) (f : β → α → β) (x : α) (l : List α) (h : x ∈ l) (hhit : ∀ b, Q (f b x))
    (hpres : ∀ b a, Q b → Q (f b a)) (b : β) : Q (l.foldl f b) := by
  induction l generalizing b with
  | nil => cases h
  | cons a as ih =>
    rcases List.mem_cons.mp h with rfl | h
    · exact foldl_inv Q f as _ (hhit b) (fun b a _ hb => hpres b a hb)
    · exact ih h _

/-- `Q` holds of the entry written for a difference with code `c` at a request location, wherever that is and whatever its
    text -/
abbrev OfChange (Q : Diff → Prop) (c : Code) : Prop :=
  ∀ (l : Loc) (info : String), l.response = 0 →
    Q { loc := l, code := c, compat := getCompatibilityForChange c false, info := info }

theorem addDiffs_has {Q : Diff → Prop} (loc : Loc) (hl : loc.response = 0) (td : TDiff) (hne : td.change ≠ Code.NoChangeDetected)
    (hq : OfChange Q td.change) (ds : List TDiff) (st : St) (h : td ∈ ds) : Has Q (st.addDiffs loc ds) := by
  refine foldl_reach (Has Q) _ td ds h (fun b => ?_) (fun b a hb => ?_) st
  · rw [if_neg hne]
    refine addDiff_has b loc td.change _ ?_
    simp only [hl, gt_iff_lt, Nat.lt_irrefl, decide_false]
    exact hq loc _ hl
  · split
    · exact hb
    · exact hb.le addTypeDiff_le

theorem foldlM_has {α} {Q : Diff → Prop} (f : St → α → Outcome St) (x : α) (l : List α) (hx : x ∈ l)
    (hhit : ∀ b, Holds (Has Q) (f b x)) (hgrow : ∀ b a, Holds (St.Le b) (f b a)) (b : St) : Holds (Has Q) (foldlM f b l) :=
  foldlM_reach (Has Q) f x l hx hhit (fun b a hb => hb.keep (hgrow b a)) b

section
variable {Q : Diff → Prop}

theorem umStep_has_del (cx : Ctx) (n : Nat) (u1 : List UM) (pl : String) (um1 um2 : UM)
    (hf : findUM u1 um2.url um2.method = some um1) (kv : String × Param)
    (hkv : kv ∈ getParams um1.item.params um1.op.params pl)
    (hhit : ∀ b, Holds (Has Q) (delParamStep { url := um2.url, method := um2.method, node := [nameNode (title pl)] }
      (getParams um2.item.params um2.op.params pl) b kv)) (b : St) : Holds (Has Q) (umStep cx n u1 pl b um2) := by
  rw [umStep_some hf]
  refine Holds.bind (foldlM_has _ kv _ (it_mem.mpr hkv) hhit (delParamStep_grows _ _) b) (fun st1 h1 => ?_)
  exact h1.keep (foldlM_grows _ _ st1 (cmpParamStep_grows _ _ _ _ _ _))

theorem umStep_has_cmp (cx : Ctx) (n : Nat) (u1 : List UM) (pl : String) (um1 um2 : UM)
    (hf : findUM u1 um2.url um2.method = some um1) (kv : String × Param)
    (hkv : kv ∈ getParams um2.item.params um2.op.params pl)
    (hhit : ∀ b, Holds (Has Q) (cmpParamStep cx n um2 pl { url := um2.url, method := um2.method, node := [nameNode (title pl)] }
      (getParams um1.item.params um1.op.params pl) b kv)) (b : St) : Holds (Has Q) (umStep cx n u1 pl b um2) := by
  rw [umStep_some hf]
  refine Holds.skip (fun st1 => ?_)
  exact foldlM_has _ kv _ (it_mem.mpr hkv) hhit (cmpParamStep_grows _ _ _ _ _ _) st1

theorem analyseRequestParams_has (cx : Ctx) (n : Nat) (u1 u2 : List UM) (pl : String) (hpl : pl ∈ paramLocations)
    (um2 : UM) (hum2 : um2 ∈ u2) (hhit : ∀ b, Holds (Has Q) (umStep cx n u1 pl b um2)) (st : St) :
    Holds (Has Q) (analyseRequestParams cx n u1 u2 st) := by
  rw [analyseRequestParams_eq]
  refine foldlM_has _ pl _ hpl (fun b0 => ?_) (fun b0 pl' => ?_) st
  · exact foldlM_has _ um2 _ (it_mem.mpr hum2) hhit (umStep_grows _ _ _ _) b0
  · exact foldlM_grows _ _ b0 (umStep_grows _ _ _ _)

theorem respStep_has_del (cx : Ctx) (n : Nat) (u1 : List UM) (um1 um2 : UM) (hf : findUM u1 um2.url um2.method = some um1)
    (resp1 : Response) (hr1 : resp1 ∈ um1.op.responses)
    (hhit : ∀ b, Holds (Has Q) (delRespStep n { url := um2.url, method := um2.method } um2.op.responses b resp1)) (b : St) :
    Holds (Has Q) (respStep cx n u1 b um2) := by
  rw [respStep_some hf]
  refine Holds.bind (foldlM_has _ resp1 _ (it_mem.mpr hr1) hhit (delRespStep_grows _ _ _) b) (fun st1 h1 => ?_)
  exact h1.keep (foldlM_grows _ _ st1 (respRestStep_grows _ _ _ _))

theorem respStep_has_rest (cx : Ctx) (n : Nat) (u1 : List UM) (um1 um2 : UM) (hf : findUM u1 um2.url um2.method = some um1)
    (resp2 : Response) (hr2 : resp2 ∈ um2.op.responses)
    (hhit : ∀ b, Holds (Has Q) (respRestStep cx n um1.op.responses { url := um2.url, method := um2.method } b resp2)) (b : St) :
    Holds (Has Q) (respStep cx n u1 b um2) := by
  rw [respStep_some hf]
  refine Holds.skip (fun st1 => ?_)
  exact foldlM_has _ resp2 _ (it_mem.mpr hr2) hhit (respRestStep_grows _ _ _ _) st1

theorem analyseResponseParams_has (cx : Ctx) (n : Nat) (u1 u2 : List UM) (um2 : UM) (hum2 : um2 ∈ u2)
    (hhit : ∀ b, Holds (Has Q) (respStep cx n u1 b um2)) (st : St) : Holds (Has Q) (analyseResponseParams cx n u1 u2 st) := by
  rw [analyseResponseParams_eq]
  exact foldlM_has _ um2 _ (it_mem.mpr hum2) hhit (respStep_grows _ _ _) st

theorem analyse_tail_keeps (fl : Flags) (n : Nat) (a b : Spec) (st1 : St) (h1 : Has Q st1) :
    Reports Q
      ((analyseResponseParams (ctxOf fl a b) n (getURLMethodsFor a) (getURLMethodsFor b)
          (analyseEndpointData fl.rev (getURLMethodsFor a) (getURLMethodsFor b) st1)).bind fun st =>
        (analyseDefinitions (ctxOf fl a b) n st).bind fun st => Outcome.ok st.diffs) :=
  ((h1.le (analyseEndpointData_le _ _ _ _)).keep (analyseResponseParams_grows _ n _ _ _)).bind
    (fun _ h3 => (h3.keep (analyseDefinitions_grows _ n _)).bind (fun _ h4 => h4))

theorem analyse_has_of_endpoints (fl : Flags) (n : Nat) (a b : Spec)
    (h : Has Q (findAddedEndpoints fl.rev (getURLMethodsFor a) (getURLMethodsFor b)
      (findDeletedEndpoints fl.rev (getURLMethodsFor a) (getURLMethodsFor b) (analyseSpecMetadata a b {})))) :
    Reports Q (analyse fl n a b) :=
  (h.keep (analyseRequestParams_grows _ n _ _ _)).bind (fun st1 h1 => analyse_tail_keeps fl n a b st1 h1)

theorem analyse_has_of_request (fl : Flags) (n : Nat) (a b : Spec)
    (h : ∀ st, Holds (Has Q) (analyseRequestParams (ctxOf fl a b) n
      (getURLMethodsFor a) (getURLMethodsFor b) st)) : Reports Q (analyse fl n a b) :=
  (h _).bind (fun st1 h1 => analyse_tail_keeps fl n a b st1 h1)

theorem analyse_has_of_response (fl : Flags) (n : Nat) (a b : Spec)
    (h : ∀ st, Holds (Has Q) (analyseResponseParams (ctxOf fl a b) n
      (getURLMethodsFor a) (getURLMethodsFor b) st)) : Reports Q (analyse fl n a b) :=
  Holds.skip (fun _ =>
    (h _).bind (fun _ h3 => (h3.keep (analyseDefinitions_grows _ n _)).bind (fun _ h4 => h4)))

end
end Gs.Diff
