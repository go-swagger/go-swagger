import GsModel.Base.Hoare
import GsModel.Diff.Analyser
/-
  C12 (totality), the hypothesis: the part of Swagger validity the analyser relies on —
    * every `$ref` met in a schema (at any depth, through properties, items and allOf) names a definition,
    * an array parameter / header / items level has an items level below it —
  for a schema as the predicate `ValidS` (`ValidDefs` for the definitions), for a document as the computable check the driver
  evaluates on every document (`Spec.validB`).  What the proofs assume of a document is put together from these in
  Diff/Walk.lean (`Spec.Adm`, `adm_of_checks`).
  `Safe P x`: `x` does not panic and, if it returns, the result satisfies `P` (running out of fuel is the business of
  the termination argument).
-/
namespace Gs.Diff
open Gs Gs.Gen Gs.Outcome

def Safe {α} (P : α → Prop) : Outcome α → Prop
  | .ok a => P a
  | .panic _ => False
  | .fuel => True

abbrev NoPanic {α} (x : Outcome α) : Prop := Safe (fun _ => True) x

@[simp] theorem safe_ok {α} (P : α → Prop) (a : α) : Safe P (.ok a) = P a := rfl
@[simp] theorem safe_panic {α} (P : α → Prop) (w : String) : Safe P (.panic w) = False := rfl
@[simp] theorem safe_fuel {α} (P : α → Prop) : Safe P (.fuel : Outcome α) = True := rfl

theorem Safe.noPanic {α} {P : α → Prop} {x : Outcome α} (hx : Safe P x) : NoPanic x := by
  cases x with
  | ok a => trivial
  | panic w => exact hx
  | fuel => trivial

theorem _root_.Gs.Outcome.Meets.safe {α} {F : Prop} {P : α → Prop} {x : Outcome α} (hx : Meets True F P x) : Safe P x := by
  cases x with
  | ok a => exact hx
  | panic w => exact hx trivial
  | fuel => trivial

/-- an array level has a level below it (a `[]` chain is the nil pointer).  Two tests for "array": `compareSimpleSchema` makes
    the first, `typeOfSimple` the second (which can hold only with an empty format, and then says the same) -/
def chainOk : List Simple → Bool
  | [] => false
  | s :: rest => if s.type = "array" || primitiveTypeString s.type s.format = "array" then chainOk rest else true

def Schema.children (s : Schema) : List Schema := s.props.map (·.2) ++ s.itemOne.toList ++ s.allOf

theorem Schema.item_mem_children {s i : Schema} (h : s.itemOne = some i) : i ∈ s.children := by
  simp [Schema.children, h]

theorem Schema.prop_mem_children {s : Schema} {kv : String × Schema} (h : kv ∈ s.props) : kv.2 ∈ s.children := by
  simp only [Schema.children, List.mem_append, List.mem_map]
  exact Or.inl (Or.inl ⟨kv, h, rfl⟩)

theorem Schema.allOf_mem_children {s a : Schema} (h : a ∈ s.allOf) : a ∈ s.children := by
  simp only [Schema.children, List.mem_append]
  exact Or.inr h

def refOk (defs : Defs) (s : Schema) : Bool := s.ref = "" || (lookup defs s.ref).isSome

/-- every `$ref` down to depth `n` resolves -/
def schemaOk (defs : Defs) : Nat → Schema → Bool
  | 0, _ => true
  | n+1, s => refOk defs s && s.children.all (schemaOk defs n)

def ValidS (defs : Defs) (s : Schema) : Prop := ∀ n, schemaOk defs n s = true
def ValidDefs (defs : Defs) : Prop := ∀ kv ∈ defs, ValidS defs kv.2

theorem ValidS.ref {d : Defs} {s : Schema} (h : ValidS d s) (hr : s.ref ≠ "") : ∃ t, lookup d s.ref = some t := by
  have := h 1
  simp only [schemaOk, refOk, Bool.and_eq_true, Bool.or_eq_true, decide_eq_true_eq] at this
  rcases this.1 with e | e
  · exact absurd e hr
  · exact Option.isSome_iff_exists.mp e

theorem ValidS.child {d : Defs} {s c : Schema} (h : ValidS d s) (hc : c ∈ s.children) : ValidS d c := by
  intro n
  have := h (n+1)
  simp only [schemaOk, Bool.and_eq_true, List.all_eq_true] at this
  exact this.2 c hc

theorem ValidDefs.lookup {d : Defs} (h : ValidDefs d) {k : String} {t : Schema} (hl : Gs.lookup d k = some t) : ValidS d t :=
  h (k, t) (lookup_mem d k t hl)

theorem chainOk_tail {s : Simple} {r : List Simple} (h : chainOk (s :: r) = true) (ha : s.type = "array") : chainOk r = true := by
  simpa [chainOk, ha] using h

def Param.okB (d : Defs) (k : Nat) (p : Param) : Bool :=
  chainOk p.chain && (match p.schema with | none => true | some sc => schemaOk d k sc)
def Response.okB (d : Defs) (k : Nat) (r : Response) : Bool :=
  r.headers.all (fun h => chainOk h.chain) && (match r.schema with | none => true | some sc => schemaOk d k sc)

/-- validity down to depth `k` -/
def Spec.validB (k : Nat) (s : Spec) : Bool :=
  s.defs.all (fun kv => schemaOk s.defs k kv.2) &&
  (getURLMethodsFor s).all (fun u =>
    u.item.params.all (Param.okB s.defs k) && u.op.params.all (Param.okB s.defs k) && u.op.responses.all (Response.okB s.defs k))

theorem schemaOk_mono (d : Defs) : ∀ k s, schemaOk d (k+1) s = true → schemaOk d k s = true := by
  intro k
  induction k with
  | zero => exact fun _ _ => rfl
  | succ k ih =>
    intro s h
    rw [schemaOk, Bool.and_eq_true, List.all_eq_true] at h ⊢
    exact ⟨h.1, fun c hc => ih c (h.2 c hc)⟩

end Gs.Diff
