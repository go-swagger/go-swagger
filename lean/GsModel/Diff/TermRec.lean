import GsModel.Diff.SelfLemmas
import GsModel.Diff.Lift
/-
  C12, termination for RECURSIVE definitions: what is proved is the mechanism of the visited-key guard (first section) and
  that it does NOT bound the recursion in general (last section); in between, the scaffolding of an argument that was not closed.
  Measures (with `fitsL`, `fitsP` of Diff/Depth.lean):
    * `Good d K s`  — `s` and every schema nested in it satisfy both with the bound `K`;
    * `hops loc st` — how many `$ref`s of the first document can still be followed at or below `loc`:
                      one if the key of `loc` is not yet visited, plus one if `loc` is a root location (one node), because
                      below depth 2 every location of a subtree has the same key (`addNode_key`).
  Along a path on which only the schema under comparison itself is a `$ref`, compareSchema follows a `$ref` of the first
  document at most `hops` times and descends structurally in between (fuel `hops·(K+1) + depth + K` would be enough).
  The induction is NOT closed here, because the statement is false as soon as allOf members are `$ref`s: propertiesFor
  merges the properties of the whole allOf ancestry WITHOUT the visited-key test, so the structure below a schema is not
  bounded by its own nesting.  The last section proves that: on one valid document the analyser returns for no fuel at all
  (`recursion_through_allOf_is_unbounded`).  The lemmas before it (measures, visited-set monotonicity, the `hops` counter) are
  what a proof for allOf-free recursive definitions would be built from.
-/
namespace Gs.Diff
open Gs Gs.Gen Gs.Outcome

/-! ### the guard

  The recursion guard of compareSchema (`schemasCompared` / schemaLocationKey): what cuts `$ref` cycles.
  * the key of a location depends on its first two nodes only (`key_ignores_depth`): below depth 2 every location of one
    subtree has the same key;
  * a `$ref` arriving at a key that was already visited returns at once, the state untouched (`guard_returns`);
  * resolving a `$ref` marks the key (`guard_marks`).
  Together: on any path below one root, at most one `$ref` is followed per distinct key, i.e. at most twice (root key, second-node
  key); between two `$ref`s the recursion descends structurally.  (The same three facts are the cause of the known finding
  `unstable-report:order-dependent-schema-visit`: which of several `$ref`s below one key is compared depends on the order.) -/

theorem key_ignores_depth (l : Loc) (a b : NodeSeg) (rest : List NodeSeg) (extra : List NodeSeg) :
    schemaLocationKey { l with node := a :: b :: rest } = schemaLocationKey { l with node := a :: b :: (rest ++ extra) } := by
  simp [schemaLocationKey]

theorem addNode_key (l : Loc) (a b : NodeSeg) (rest : List NodeSeg) (c : NodeSeg) (h : l.node = a :: b :: rest) :
    schemaLocationKey (l.addNode c) = schemaLocationKey l := by
  have e1 : l = { l with node := a :: b :: rest } := by cases l; simp_all
  have e2 : l.addNode c = { l with node := a :: b :: (rest ++ [c]) } := by cases l; simp_all [Loc.addNode]
  rw [e2]
  conv => rhs; rw [e1]
  exact (key_ignores_depth l a b rest [c]).symm

/-- a `$ref` that arrives at a visited key is not followed: compareSchema returns the state it was given -/
theorem guard_returns (cx : Ctx) (n : Nat) (loc : Loc) (s1 s2 : Schema) (st : St) (k : String)
    (hr : s1.ref ≠ "") (hsame : checkRefChangeSchema n s1 s2 = .ok [])
    (hk : schemaLocationKey loc = .ok k) (hv : st.visited.contains k = true) :
    compareSchema cx (n+1) loc (some s1) (some s2) st = .ok st := by
  unfold compareSchema
  simp only [hsame, ok_bind', List.isEmpty_nil, Bool.not_true, Bool.false_eq_true, if_false]
  have hv' : k ∈ st.visited := by simpa using hv
  unfold resolveBoth
  simp [hr, hk, hv', Outcome.bind]

/-- following a `$ref` marks the key of the location -/
theorem guard_marks (cx : Ctx) (loc : Loc) (s1 s2 : Schema) (st : St) (k : String)
    (hr : s1.ref ≠ "") (hk : schemaLocationKey loc = .ok k) (hv : st.visited.contains k = false) :
    ∃ o1 o2 st', resolveBoth cx loc s1 s2 st = .ok (some (o1, o2, st')) ∧ st'.visited.contains k = true := by
  unfold resolveBoth
  simp only [ne_eq, hr, not_false_eq_true, if_true, hk, ok_bind', hv, Bool.false_eq_true, if_false, schemaFromRef_eq]
  refine ⟨_, _, _, rfl, ?_⟩
  -- the key was appended before the two look-ups, and these leave the visited keys alone
  split <;> exact List.contains_iff_mem.mpr (List.mem_append_right _ (List.mem_singleton_self k))

def goodN (d : Defs) (K : Nat) : Nat → Schema → Bool
  | 0, _ => true
  | n+1, s => fitsL K s && fitsP d K s && s.children.all (goodN d K n)

def Good (d : Defs) (K : Nat) (s : Schema) : Prop := ∀ n, goodN d K n s = true
def GoodDefs (d : Defs) (K : Nat) : Prop := ∀ kv ∈ d, Good d K kv.2

theorem Good.fitsL {d : Defs} {K : Nat} {s : Schema} (h : Good d K s) : fitsL K s = true := by
  have := h 1
  simp only [goodN, Bool.and_eq_true] at this
  exact this.1.1

theorem Good.fitsP {d : Defs} {K : Nat} {s : Schema} (h : Good d K s) : fitsP d K s = true := by
  have := h 1
  simp only [goodN, Bool.and_eq_true] at this
  exact this.1.2

theorem Good.child {d : Defs} {K : Nat} {s c : Schema} (h : Good d K s) (hc : c ∈ s.children) : Good d K c := by
  intro n
  have := h (n+1)
  simp only [goodN, Bool.and_eq_true, List.all_eq_true] at this
  exact this.2 c hc

theorem Good.item {d : Defs} {K : Nat} {s i : Schema} (h : Good d K s) (hi : s.itemOne = some i) : Good d K i :=
  h.child (Schema.item_mem_children hi)
theorem GoodDefs.lookup {d : Defs} {K : Nat} (h : GoodDefs d K) {k : String} {t : Schema} (hl : Gs.lookup d k = some t) : Good d K t :=
  h (k, t) (lookup_mem d k t hl)

/-! ### helpers: enough fuel under the local measure (read off the walk of Diff/Walk.lean) -/

theorem nodeOfProps_termL (n k : Nat) (name : String) (s : Schema) (h : fitsL k s = true) (hk : k ≤ n) : NoFuel (nodeOfProps n name s) :=
  (nodeOfProps_meets (V := False) n name s (fun _ => fitsL_le s h hk)).term

theorem checkRefChangeSchema_termL (n k : Nat) (t1 t2 : Schema) (h1 : fitsL k t1 = true) (h2 : fitsL k t2 = true) (hk : k ≤ n + 1) :
    NoFuel (checkRefChangeSchema n t1 t2) :=
  (checkRefChangeSchema_meets (V := False) n t1 t2 (fun _ => fitsL_le t1 h1 hk) (fun _ => fitsL_le t2 h2 hk)).term

theorem compareProps_termL (n k : Nat) (t1 t2 : Schema) (h1 : fitsL k t1 = true) (h2 : fitsL k t2 = true) (hk : k ≤ n) :
    NoFuel (compareProps n t1 t2) :=
  (compareProps_meets (V := False) n t1 t2 (fun _ => fitsL_le t1 h1 hk) (fun _ => fitsL_le t2 h2 hk)).term

theorem propertiesFor_termP (d : Defs) (K : Nat) (hd : GoodDefs d K) :
    ∀ (n k : Nat) (s : Schema), fitsP d k s = true → k ≤ n → Good d K s →
      Term (fun r => ∀ kv ∈ r.1, Good d K kv.2.schema) (propertiesFor d n s) :=
  fun n _ s h hk hg =>
    (propertiesFor_meets (V := False) d (Good d K) (Good d K)
      (fun h hkv => h.child (Schema.prop_mem_children hkv)) (fun h ha => h.child (Schema.allOf_mem_children ha))
      (fun _ _ ht => hd.lookup ht) nofun n s hg (fun _ => fitsP_le d s h hk)).term

abbrev VisMono (st : St) (x : Outcome St) : Prop := Holds (VisSub st) x

theorem foldlM_vis {α} (f : St → α → Outcome St) (l : List α) (st0 st : St) (h0 : VisSub st0 st)
    (hf : ∀ b a, a ∈ l → VisMono b (f b a)) : VisMono st0 (foldlM f st l) :=
  foldlM_holds (VisSub st0) f l st h0 (fun b a ha hb => (hf b a ha).mono (fun _ h k hk => h k (hb k hk)))

abbrev CmpVis (cmp : Cmp) : Prop := ∀ loc o1 o2 st, VisMono st (cmp loc o1 o2 st)

theorem compareSchema_vis (cx : Ctx) : ∀ n, CmpVis (compareSchema cx n) :=
  fun n loc o1 o2 st => (compareSchema_grows cx n loc o1 o2 st).mono (fun _ h => h.vis)

def keyVisited (loc : Loc) (st : St) : Bool :=
  match schemaLocationKey loc with
  | .ok k => st.visited.contains k
  | _ => true

def hops (loc : Loc) (st : St) : Nat := (if keyVisited loc st then 0 else 1) + (if loc.node.length ≤ 1 then 1 else 0)

theorem keyVisited_mono {loc : Loc} {st st' : St} (h : VisSub st st') (hk : keyVisited loc st = true) : keyVisited loc st' = true := by
  unfold keyVisited at hk ⊢
  split
  · rename_i k hk'
    simp only [hk'] at hk
    simp only [List.contains_eq_mem, decide_eq_true_eq] at hk ⊢
    exact h k hk
  · rfl

theorem hops_anti {loc : Loc} {st st' : St} (h : VisSub st st') : hops loc st' ≤ hops loc st := by
  unfold hops
  by_cases hk : keyVisited loc st = true
  · simp [hk, keyVisited_mono h hk]
  · simp only [hk, Bool.false_eq_true, if_false]
    split <;> omega

theorem hops_addNode_le (loc : Loc) (hl : loc.node ≠ []) (c : NodeSeg) (st : St) : hops (loc.addNode c) st ≤ hops loc st := by
  cases hn : loc.node with
  | nil => exact absurd hn hl
  | cons a rest =>
    cases rest with
    | nil =>
      -- a root location: the child has two nodes
      have h1 : hops (loc.addNode c) st ≤ 1 := by
        unfold hops
        simp only [Loc.addNode, hn, List.cons_append, List.nil_append, List.length_cons, List.length_nil]
        split <;> simp
      have h2 : 1 ≤ hops loc st := by
        unfold hops
        simp only [hn, List.length_cons, List.length_nil]
        split <;> simp
      omega
    | cons b rest' =>
      have hk : schemaLocationKey (loc.addNode c) = schemaLocationKey loc := addNode_key loc a b rest' c hn
      unfold hops keyVisited
      rw [hk]
      simp [Loc.addNode, hn]

theorem hops_after_mark (loc : Loc) (st st' : St) (k : String) (hk : schemaLocationKey loc = .ok k)
    (hfresh : st.visited.contains k = false) (hmark : k ∈ st'.visited) : hops loc st' + 1 = hops loc st := by
  have hf : k ∉ st.visited := by
    intro hm
    simp [hm] at hfresh
  unfold hops keyVisited
  simp only [hk, List.contains_eq_mem, hmark, decide_true, if_true, hf, decide_false, Bool.false_eq_true, if_false]
  omega

theorem addChildDiffNode_shape (n : Nat) (l : Loc) (name : String) (s : Schema) :
    Holds (fun l' => ∃ nd, l' = l.addNode nd) (addChildDiffNode n l name s) := by
  unfold addChildDiffNode
  refine Holds.skip (fun nd => ?_)
  exact ⟨nd, rfl⟩

/-! ### what the guard does NOT cover: recursion through allOf

  The visited-key test is made only where the schema being compared IS a `$ref`.  propertiesFor follows the `$ref`s of
  allOf members on its own, without any test: an inline schema with properties of its own and an allOf member that refers
  back to an enclosing definition is compared again and again, one level deeper each time. -/

/-- A: {properties: {own}, allOf: [$ref B]},  B: {properties: {x: {properties: {q}, allOf: [$ref A]}, n}} — a valid document -/
def recX : Schema := { type := ["object"], hasProps := true, props := [("q", { type := ["string"] })], allOf := [{ ref := "A" }] }
def recA : Schema := { type := ["object"], hasProps := true, props := [("own", { type := ["string"] })], allOf := [{ ref := "B" }] }
def recB : Schema := { type := ["object"], hasProps := true, props := [("x", recX), ("n", { type := ["string"] })] }
def recSpec : Spec :=
  { paths := [{ url := "/a", ops := [{ method := "get", responses := [{ code := 200, desc := "ok", schema := some recX }] }] }],
    defs := [("A", recA), ("B", recB)] }

def isFuel {α} : Outcome α → Bool
  | .fuel => true
  | _ => false

def NotOk {α} (x : Outcome α) : Prop := x.isOk = false

/-- never returning is the postcondition `False` -/
theorem NotOk.of_holds {α} {x : Outcome α} (h : Holds (fun _ => False) x) : NotOk x := by
  cases x with
  | ok a => exact h.elim
  | panic w => rfl
  | fuel => rfl

def recDefs : Defs := [("A", recA), ("B", recB)]
def recCx (rev : Nat) : Ctx := { defs1 := recDefs, defs2 := recDefs, rev := rev }

/-- the merged properties of `x` — own `q`, then `own` of A, then `x` and `n` of B — once the fuel reaches B (from 3 on;
    below, `propertiesFor` does not return) -/
theorem propertiesFor_recX (n : Nat) :
    Holds (fun r => r.1 =
        [("q", { schema := { type := ["string"] }, required := false }), ("own", { schema := { type := ["string"] }, required := false }),
         ("x", { schema := recX, required := false }), ("n", { schema := { type := ["string"] }, required := false })])
      (propertiesFor recDefs n recX) := by
  rcases n with _ | _ | _ | m <;> simp [propertiesFor, recX, recA, recB, recDefs, lookup, upsert, Outcome.bind, Outcome.foldlM]

/-- **comparing `x` with itself never returns**, whatever the fuel, the location and the state: each level reaches `x` again -/
theorem recX_never_returns (rev n : Nat) (loc : Loc) (st : St) :
    Holds (fun _ => False) (compareSchema (recCx rev) n loc (some recX) (some recX) st) := by
  induction n generalizing loc st with
  | zero => trivial
  | succ n ih =>
    rw [compareSchema_norefs _ n loc recX recX st rfl rfl, compareProps_self, ok_bind']
    simp only [List.isEmpty_nil, Bool.not_true, Bool.false_eq_true, if_false,
      compareItems_notarray _ n loc recX recX _ rfl, ok_bind']
    unfold compareProperties
    -- `x` has properties, so the guard does not return; if both calls of propertiesFor return, the loop over the merged
    -- properties of the first side reaches `x`, finds it among those of the second side and compares the two: one level
    -- deeper
    refine (propertiesFor_recX n).bind (fun pr1 h1 => (propertiesFor_recX n).bind (fun pr2 h2 => ?_))
    rw [h1, h2]
    refine Holds.false_bind _ ?_
    refine foldlM_reach _ _ ("x", { schema := recX, required := false }) _ (it_mem.mpr (by simp)) ?_ (fun _ _ h => h.elim) _
    intro acc
    rw [propStep_some (p2 := { schema := recX, required := false }) rfl]
    refine Holds.skip (fun childLoc => ?_)
    exact Holds.false_bind _ (ih childLoc acc.1)

def recResp : Response := { code := 200, desc := "ok", schema := some recX }
def recOp : Operation := { method := "get", responses := [recResp] }
def recUM : UM := { url := "/a", method := "get", item := { url := "/a", ops := [recOp] }, op := recOp }

/-- **comparing this valid document with itself never returns a report**, for every fuel and every iteration order: the
    recursion of the analyser has no bound here (the real `swagger diff` dies with a stack overflow / out of memory on it) -/
theorem recursion_through_allOf_is_unbounded (fl : Flags) (n : Nat) : NotOk (analyse fl n recSpec recSpec) := by
  refine NotOk.of_holds ?_
  unfold analyse
  refine Holds.skip (fun st1 => Holds.false_bind _ ?_)
  rw [analyseResponseParams_eq]
  refine foldlM_reach _ _ recUM _ (it_mem.mpr (List.mem_singleton_self recUM)) (fun b => ?_) (fun _ _ h => h.elim) _
  rw [respStep_some (show findUM (getURLMethodsFor recSpec) recUM.url recUM.method = some recUM from rfl)]
  refine Holds.skip (fun st2 => ?_)
  refine foldlM_reach _ _ recResp _ (it_mem.mpr (List.mem_singleton_self recResp)) (fun b' => ?_) (fun _ _ h => h.elim) _
  rw [respRestStep_some (show findResp recUM.op.responses recResp.code = some recResp from rfl)]
  refine Holds.skip (fun st3 => Holds.skip (fun st4 => ?_))
  unfold respBodyStep
  refine Holds.skip (fun nd => ?_)
  exact Holds.skip (fun nd' => recX_never_returns fl.rev n _ _)

end Gs.Diff
