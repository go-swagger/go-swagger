import Lean.Data.Json
import GsModel.Diff.Json
import GsModel.Diff.Depth
import GsModel.Ops.Regen
import GsModel.Text.Escape
import GsModel.Text.Tags
import GsModel.Text.Init
import GsModel.Ops.Gather
import GsModel.Sec.Serve
import GsModel.Params.Bind
import GsModel.Pair.Encode
import GsModel.Doc.Lines
import GsModel.Scan.GoTypes
import GsModel.Scan.Indent
import GsModel.Scan.Lists
import GsModel.Names.Timeout
import GsModel.Schema.Valid
/-
  Model driver: one JSON request per line on stdin, one JSON response per line on stdout.
  Imports no Mathlib (compiled as `lean_exe gsdriver`).
-/
open Lean Gs

def handleDiff (j : Json) : Json :=
  let a := Diff.J.spec ((j.getObjVal? "a").toOption.getD .null)
  let b := Diff.J.spec ((j.getObjVal? "b").toOption.getD .null)
  let fuel := 200
  let run (o : Nat) := Json.mkObj (Diff.J.outcomeJson (Diff.analyse { rev := o } fuel a b))
  let r0 := Diff.analyse { rev := 0 } fuel a b
  Json.mkObj (Diff.J.outcomeJson r0 ++ [("alts", Json.arr #[run 1, run 2, run 3, run 4, run 5]),
    -- the validity hypothesis of `total_no_panic`, evaluated beyond the nesting depth of any generated document
    ("va", Json.bool (a.validB 40)), ("vb", Json.bool (b.validB 40)),
    -- the depth hypothesis of `terminates_acyclic` (false for recursive definitions)
    ("fa", Json.bool (a.fitsB 24)), ("fb", Json.bool (b.fitsB 24))])

def handleExecute (j : Json) : Json :=
  let ds := (Diff.J.arr j "diffs").filterMap Diff.J.entry
  let ig := (Diff.J.arr j "ignores").filterMap Diff.J.entry
  if ds.length ≠ (Diff.J.arr j "diffs").length || ig.length ≠ (Diff.J.arr j "ignores").length then
    Json.mkObj [("r", Json.str "bad-input")]
  else
  let r := Diff.execute (Diff.J.str j "fmt" == "json") (Diff.J.bool j "brk") ds ig
  match r.1 with
  | .text lines => Json.mkObj [("r", Json.str "ok"), ("exit", Json.bool r.2), ("lines", Json.arr (lines.map Json.str).toArray)]
  | .json out => Json.mkObj [("r", Json.str "ok"), ("exit", Json.bool r.2), ("diffs", Json.arr (out.map Diff.J.entryJson).toArray)]

/-- {"op":"regen.exec","fs":[[p,c]..],"ops":[{"run":[[p,c,skip]..]} | {"user":[p,c]}]} → {"fs":[[p,c]..]} -/
def handleRegen (j : Json) : Json :=
  let pair (x : Json) : String × String :=
    match x with
    | .arr a => ((a[0]?.bind (·.getStr?.toOption)).getD "", (a[1]?.bind (·.getStr?.toOption)).getD "")
    | _ => ("", "")
  let fs : Regen.FS := (Diff.J.arr j "fs").map pair
  let ops : List Regen.Op := (Diff.J.arr j "ops").map (fun o =>
    match o.getObjVal? "run" with
    | .ok (.arr ws) => Regen.Op.run (ws.toList.map (fun w =>
        match w with
        | .arr a => { path := (a[0]?.bind (·.getStr?.toOption)).getD "", content := (a[1]?.bind (·.getStr?.toOption)).getD "",
                      skip := (a[2]?.bind (·.getBool?.toOption)).getD false }
        | _ => { path := "", content := "", skip := false }))
    | _ =>
      let u := pair ((o.getObjVal? "user").toOption.getD .null)
      Regen.Op.user u.1 u.2)
  let out := Regen.exec fs ops
  Json.mkObj [("r", Json.str "ok"), ("fs", Json.arr (out.map (fun kv => Json.arr #[Json.str kv.1, Json.str kv.2])).toArray)]

/-- {"op":"text.escape","fn":"comment|blockcomment|backticks","in":s,"pad":p} → {"out":s} -/
def handleEscape (j : Json) : Json :=
  let s := (Diff.J.str j "in").toList
  let out : List Char :=
    match Diff.J.str j "fn" with
    | "comment" => Text.padComment s (Diff.J.str j "pad").toList
    | "blockcomment" => Text.blockComment s
    | "backticks" => Text.escBacktick s
    | "readable" => Text.readable s
    | _ => []
  let ev := match Diff.J.str j "fn" with
    | "backticks" => (Text.evalGo ('`' :: out ++ ['`'])).map String.ofList
    | "readable" => (Text.evalGo ('`' :: out ++ ['`'])).map String.ofList
    | _ => none
  Json.mkObj [("r", Json.str "ok"), ("out", Json.str (String.ofList out)),
    ("eval", match ev with | some v => Json.str v | none => Json.null),
    ("blockEnd", Json.bool (Text.hasBlockEnd out)), ("inLine", Json.bool (Text.inLineComments out))]

instance : Inhabited Text.Init.V := ⟨.num []⟩

partial def jsonInitV (j : Json) : Text.Init.V :=
  match j with
  | .str s => .str s.toList
  | .arr a => .arr (a.toList.map jsonInitV)
  | .obj kvs => .obj (kvs.toList.map (fun kv => (kv.1.toList, jsonInitV kv.2)))
  | .num n => .num (toString n).toList
  | .bool b => .num (toString b).toList
  | .null => .num "null".toList

/-- {"op":"text.initLiteral","value":<json>} → {"out":s,"structureOk":bool} -/
def handleInitLiteral (j : Json) : Json :=
  let v := jsonInitV ((j.getObjVal? "value").toOption.getD .null)
  let out := Text.Init.render v
  Json.mkObj [("r", Json.str "ok"), ("out", Json.str (String.ofList out)),
    ("structureOk", Json.bool (Text.Init.skel 0 out == Text.Init.shape v))]

/-- {"op":"text.printTags","tags":[[key,value]..],"custom":s} → {"out":s,"oneToken":bool} -/
def handlePrintTags (j : Json) : Json :=
  let tags : List (List Char × List Char) := (Diff.J.arr j "tags").map (fun x =>
    match x with
    | .arr a => (((a[0]?.bind (·.getStr?.toOption)).getD "").toList, ((a[1]?.bind (·.getStr?.toOption)).getD "").toList)
    | _ => ([], []))
  let out := Text.Tags.printTags tags (Diff.J.str j "custom").toList
  Json.mkObj [("r", Json.str "ok"), ("out", Json.str (String.ofList out)),
    ("oneToken", Json.bool (Text.Tags.rawOneToken out || Text.Tags.interpOneToken out))]

/-- {"op":"ops.gather","ops":[{key,method,path,id}..]} (already in sorted order) → {"kept":[[name,method,path]..]} -/
def handleGather (j : Json) : Json :=
  let ops : List Gather.Op := (Diff.J.arr j "ops").map (fun o =>
    { key := Diff.J.str o "key", method := Diff.J.str o "method", path := Diff.J.str o "path", id := Diff.J.str o "id" })
  let out := Gather.gather ops
  Json.mkObj [("r", Json.str "ok"),
    ("kept", Json.arr (out.map (fun kv => Json.arr #[Json.str kv.1, Json.str kv.2.method, Json.str kv.2.path])).toArray)]

/-- {"op":"sec.serve","global":[[s..]..],"opsec":null|[[s..]..],"cred":{s:{"r":"na|err|nil|ok","code":n,"p":str}}} -/
def handleSec (j : Json) : Json :=
  let alts (x : Json) : List Sec.Alt :=
    match x with
    | .arr a => a.toList.map (fun al => match al with | .arr ss => ss.toList.map (fun s => s.getStr?.toOption.getD "") | _ => [])
    | _ => []
  let global := alts ((j.getObjVal? "global").toOption.getD .null)
  let opsec : Option (List Sec.Alt) :=
    match j.getObjVal? "opsec" with
    | .ok (.arr a) => some (alts (.arr a))
    | _ => none
  let credJ := (j.getObjVal? "cred").toOption.getD .null
  let cred (s : String) : Sec.Res :=
    match credJ.getObjVal? s with
    | .ok c =>
      match Diff.J.str c "r" with
      | "ok" => .ok (Diff.J.str c "p")
      | "nil" => .okNil
      | "err" => .err (Diff.J.nat c "code")
      | _ => .notApplies
    | _ => .notApplies
  match Sec.serve global opsec cred with
  | .handler (some p) => Json.mkObj [("r", Json.str "ok"), ("out", Json.str "handler"), ("principal", Json.str p)]
  | .handler none => Json.mkObj [("r", Json.str "ok"), ("out", Json.str "handler"), ("principal", Json.null)]
  | .reject c => Json.mkObj [("r", Json.str "ok"), ("out", Json.str "reject"), ("status", Json.num c)]

def optNat (j : Json) (k : String) : Option Nat :=
  match j.getObjVal? k with
  | .ok .null => none
  | .ok v => (v.getNat?).toOption
  | .error _ => none

def pspec (j : Json) : Params.PSpec :=
  let ty : Params.PType := match Diff.J.str j "ty" with
    | "int32" => .int 32
    | "int64" => .int 64
    | "bool" => .bool
    | _ => .str
  { required := Diff.J.bool j "required", isArray := Diff.J.bool j "isArray", cf := Diff.J.str j "cf", ty := ty,
    v := { minLen := optNat j "minLen", maxLen := optNat j "maxLen", enumS := Diff.J.strs j "enumS",
           minI := Diff.J.optInt j "minI", exMin := Diff.J.bool j "exMin", maxI := Diff.J.optInt j "maxI", exMax := Diff.J.bool j "exMax",
           enumI := (Diff.J.arr j "enumI").filterMap (fun x => x.getInt?.toOption) },
    minItems := optNat j "minItems", maxItems := optNat j "maxItems", unique := Diff.J.bool j "unique", allowEmpty := Diff.J.bool j "allowEmpty" }

def valJson : Params.Val → Json
  | .s x => Json.mkObj [("s", Json.str x)]
  | .i x => Json.mkObj [("i", Json.num (Lean.JsonNumber.fromInt x))]
  | .b x => Json.mkObj [("b", Json.bool x)]

def boundJson : Params.Bound → Json
  | .absent => Json.mkObj [("k", Json.str "absent")]
  | .reject => Json.mkObj [("k", Json.str "reject")]
  | .one v => Json.mkObj [("k", Json.str "one"), ("v", valJson v)]
  | .many vs => Json.mkObj [("k", Json.str "many"), ("v", Json.arr (vs.map valJson).toArray)]

/-- {"op":"param.bind","spec":{..},"raw":null|[s..]} → {"gen":Bound,"ref":Bound} -/
def handleBind (j : Json) : Json :=
  let p := pspec ((j.getObjVal? "spec").toOption.getD .null)
  let raw : Option (List Params.Str) :=
    match j.getObjVal? "raw" with
    | .ok (.arr a) => some (a.toList.map (fun x => (x.getStr?.toOption.getD "").toList))
    | _ => none
  Json.mkObj [("r", Json.str "ok"), ("gen", boundJson (Params.bindGenAny p raw)), ("ref", boundJson (Params.bindRefAny p raw))]

def jsonVal (j : Json) : Option Params.Val :=
  match j.getObjVal? "s", j.getObjVal? "i", j.getObjVal? "b" with
  | .ok (.str x), _, _ => some (.s x)
  | _, .ok v, _ => (v.getInt?.toOption).map Params.Val.i
  | _, _, .ok (.bool b) => some (.b b)
  | _, _, _ => none

def jsonBound (j : Json) : Params.Bound :=
  match Diff.J.str j "k" with
  | "one" => match jsonVal ((j.getObjVal? "v").toOption.getD .null) with
      | some v => .one v
      | none => .reject
  | "many" => .many ((Diff.J.arr j "v").filterMap jsonVal)
  | "absent" => .absent
  | _ => .reject

/-- {"op":"pair.roundtrip","spec":{..},"value":Bound} → {"wire":null|[s..],"bound":Bound}: what the client sends, what the server binds from it -/
def handlePair (j : Json) : Json :=
  let p := pspec ((j.getObjVal? "spec").toOption.getD .null)
  let v := jsonBound ((j.getObjVal? "value").toOption.getD .null)
  let wire := Pair.encodeGen p v
  let wj : Json := match wire with
    | none => Json.null
    | some ws => Json.arr (ws.map (fun w => Json.str (String.ofList w))).toArray
  Json.mkObj [("r", Json.str "ok"), ("wire", wj), ("bound", boundJson (Params.bindGenAny p wire))]

/-- {"op":"resp.dispatch","declared":[200,404],"default":true,"code":500} → {"kind":"defaultError","code":500} -/
def handleDispatch (j : Json) : Json :=
  let d := (Diff.J.arr j "declared").filterMap (fun x => x.getNat?.toOption)
  let k := Pair.readResp d (Diff.J.bool j "default") (Diff.J.nat j "code")
  let (name, c) := match k with
    | .success c => ("success", c)
    | .typedError c => ("typedError", c)
    | .defaultSuccess c => ("defaultSuccess", c)
    | .defaultError c => ("defaultError", c)
    | .apiError c => ("apiError", c)
  Json.mkObj [("r", Json.str "ok"), ("kind", Json.str name), ("code", Json.num c)]

def jsonDec (j : Json) : Doc.Dec :=
  { neg := Diff.J.bool j "neg", int := Diff.J.nat j "int", frac := (Diff.J.arr j "frac").filterMap (fun x => x.getNat?.toOption) }

def decJson (d : Doc.Dec) : Json :=
  Json.mkObj [("neg", Json.bool d.neg), ("int", Json.num (Lean.JsonNumber.fromNat d.int)), ("frac", Json.arr (d.frac.map (fun n => Json.num (Lean.JsonNumber.fromNat n))).toArray)]

/-- {"op":"doc.roundtrip","kind":"maximum"|"minimum","num":Dec,"excl":bool} → printed text, whether the scanner keeps it, and as what -/
def handleDoc (j : Json) : Json :=
  let d := jsonDec ((j.getObjVal? "num").toOption.getD .null)
  let excl := Diff.J.bool j "excl"
  let line : Doc.Line := if Diff.J.str j "kind" = "maximum" then .maximum d excl else .minimum d excl
  let t := Doc.emit line
  match Doc.parse true t with
  | some (.maximum v e) => Json.mkObj [("r", Json.str "ok"), ("text", Json.str (String.ofList t.val)), ("kept", Json.bool true), ("num", decJson v), ("excl", Json.bool e)]
  | some (.minimum v e) => Json.mkObj [("r", Json.str "ok"), ("text", Json.str (String.ofList t.val)), ("kept", Json.bool true), ("num", decJson v), ("excl", Json.bool e)]
  | _ => Json.mkObj [("r", Json.str "ok"), ("text", Json.str (String.ofList t.val)), ("kept", Json.bool false)]

instance : Inhabited Scan.GoTy := ⟨.iface⟩

partial def jsonGoTy (j : Json) : Scan.GoTy :=
  let elem := fun (_ : Unit) => jsonGoTy ((j.getObjVal? "elem").toOption.getD .null)
  match Diff.J.str j "k" with
  | "basic" => .basic (match Diff.J.str j "kind" with | "bool" => .bool | "int" => .int | "float" => .float | _ => .str)
  | "ptr" => .ptr (elem ())
  | "slice" => .slice (elem ())
  | "arr" => .arr (elem ())
  | "map" => .map (elem ())
  | "time" => .time
  | "text" => .text
  | "bytes" => .bytes
  | "strct" => .strct ((Diff.J.arr j "fields").map (fun f =>
      ({ json := Diff.J.str f "json", omitempty := Diff.J.bool f "omitempty", asString := Diff.J.bool f "asString" },
       jsonGoTy ((f.getObjVal? "ty").toOption.getD .null))))
  | _ => .iface

partial def shapeJson (s : Schema.Schema) : Json :=
  let base : List (String × Json) := if s.ty ≠ "" then [("ty", Json.str s.ty)] else []
  let base := match s.items with | some it => base ++ [("items", shapeJson it)] | none => base
  let base := match s.addl with | some a => base ++ [("addl", shapeJson a)] | none => base
  let base := if s.props.isEmpty then base else base ++ [("props", Json.mkObj (s.props.map (fun kp => (kp.1, shapeJson kp.2))))]
  Json.mkObj base

/-- named references are outside the Lean fragment: the harness substitutes them before calling (k = "named" → ref) -/
partial def shapeOfTy (strAll : Bool) (j : Json) : Json :=
  match Diff.J.str j "k" with
  | "named" => Json.mkObj [("ref", Json.str (Diff.J.str j "name"))]
  | "ptr" => shapeOfTy strAll ((j.getObjVal? "elem").toOption.getD .null)
  | "slice" | "arr" => Json.mkObj [("ty", Json.str "array"), ("items", shapeOfTy strAll ((j.getObjVal? "elem").toOption.getD .null))]
  | "map" => Json.mkObj [("ty", Json.str "object"), ("addl", shapeOfTy strAll ((j.getObjVal? "elem").toOption.getD .null))]
  | "strct" =>
    let fs := Diff.J.arr j "fields"
    let props := fs.map (fun f =>
      let ty := (f.getObjVal? "ty").toOption.getD .null
      let strOpt := Diff.J.bool f "asString" && (strAll || Scan.stringable (jsonGoTy ty))
      (Diff.J.str f "json", if strOpt then Json.mkObj [("ty", Json.str "string")] else shapeOfTy strAll ty))
    if props.isEmpty then Json.mkObj [("ty", Json.str "object")] else Json.mkObj [("ty", Json.str "object"), ("props", Json.mkObj props)]
  | _ => shapeJson (Scan.schemaOf strAll 40 (jsonGoTy j))

/-- {"op":"scan.schema","ty":GoTy,"strAll":bool} → structural shape of the schema the scanner builds -/
def handleScanSchema (j : Json) : Json :=
  Json.mkObj [("r", Json.str "ok"), ("schema", shapeOfTy (Diff.J.bool j "strAll") ((j.getObjVal? "ty").toOption.getD .null))]

/-- {"op":"scan.removeIndent","lines":[s..]} → {"lines":[s..]} | {"panic":why} -/
def handleRemoveIndent (j : Json) : Json :=
  let ls := (Diff.J.strs j "lines").map String.toList
  match Scan.removeIndent ls with
  | .ok r => Json.mkObj [("r", Json.str "ok"), ("lines", Json.arr (r.map (fun l => Json.str (String.ofList l))).toArray)]
  | .panic w => Json.mkObj [("r", Json.str "ok"), ("panic", Json.str w)]
  | .fuel => Json.mkObj [("r", Json.str "fuel")]

/-- {"op":"scan.schemes"|"scan.tags","s":capture} → {"items":[s..]} : the item splitters behind the regexp captures -/
def handleScanList (schemes : Bool) (j : Json) : Json :=
  let s := (Diff.J.str j "s").toList
  let r := if schemes then Scan.schemesOf Scan.goIsSpace s else Scan.fields Scan.goIsSpace s
  Json.mkObj [("r", Json.str "ok"), ("items", Json.arr (r.map (fun l => Json.str (String.ofList l))).toArray)]

/-- {"op":"names.renameTimeout","seen":[s..],"name":s} → {"name":s} | {"fuel":true} -/
def handleRenameTimeout (j : Json) : Json :=
  let seen := (Diff.J.strs j "seen").map String.toList
  match Names.renameTimeout seen (Names.maxLen seen + 8) (Diff.J.str j "name").toList with
  | some r => Json.mkObj [("r", Json.str "ok"), ("name", Json.str (String.ofList r))]
  | none => Json.mkObj [("r", Json.str "ok"), ("fuel", Json.bool true)]

partial def toJ (j : Json) : Schema.J :=
  match j with
  | .null => .null
  | .bool b => .bool b
  | .num n =>
    let e := n.exponent
    if e ≤ 3 then .num (n.mantissa * (10 : Int) ^ (3 - e)) else .num (n.mantissa / (10 : Int) ^ (e - 3))
  | .str s => .str s
  | .arr a => .arr (a.toList.map toJ)
  | .obj o => .obj (o.toList.map (fun kv => (kv.1, toJ kv.2)))

partial def toSchema (j : Json) : Schema.Schema :=
  let sub (k : String) : Option Schema.Schema :=
    match j.getObjVal? k with
    | .ok (.obj o) => some (toSchema (.obj o))
    | _ => none
  { ref := Diff.J.str j "ref", ty := Diff.J.str j "ty", nullable := Diff.J.bool j "nullable", readOnly := Diff.J.bool j "readOnly",
    hasDefault := Diff.J.bool j "hasDefault", minLen := optNat j "minLen", maxLen := optNat j "maxLen",
    minimum := Diff.J.optInt j "minimum", exMin := Diff.J.bool j "exMin", maximum := Diff.J.optInt j "maximum", exMax := Diff.J.bool j "exMax",
    multipleOf := Diff.J.optInt j "multipleOf", enum := (Diff.J.arr j "enum").map toJ, items := sub "items",
    minItems := optNat j "minItems", maxItems := optNat j "maxItems", unique := Diff.J.bool j "unique",
    minProps := optNat j "minProps", maxProps := optNat j "maxProps",
    props := (Diff.J.arr j "props").map (fun kv => (Diff.J.str kv "k", toSchema ((kv.getObjVal? "v").toOption.getD .null))),
    required := Diff.J.strs j "required", addl := sub "addl", allOf := (Diff.J.arr j "allOf").map toSchema }

def schemaDefs (j : Json) : Schema.Defs :=
  (Diff.J.arr j "defs").map (fun kv => (Diff.J.str kv "k", toSchema ((kv.getObjVal? "v").toOption.getD .null)))

def handleSchemaCheck (j : Json) : Json :=
  let d := schemaDefs j
  let s := toSchema ((j.getObjVal? "s").toOption.getD .null)
  let v := toJ ((j.getObjVal? "j").toOption.getD .null)
  Json.mkObj [("r", Json.str "ok"), ("valid", Json.bool (Schema.valid d 60 s v)), ("validSkip", Json.bool (Schema.validSkip d 60 s v)), ("validAny", Json.bool (Schema.validAny d 60 s v)), ("validAll", Json.bool (Schema.validAll d 60 s v)),
    ("noZero", Json.bool (Schema.noZeroProps 60 v))]

def handleTolerated (j : Json) : Json :=
  let d := schemaDefs j
  let s := toSchema ((j.getObjVal? "s").toOption.getD .null)
  let a := toJ ((j.getObjVal? "j").toOption.getD .null)
  let b := toJ ((j.getObjVal? "j2").toOption.getD .null)
  Json.mkObj [("r", Json.str "ok"), ("tolerated", Json.bool (Schema.tolerated d 60 s a b)), ("equal", Json.bool (Schema.J.beq 60 a b))]

def handle (line : String) : Json :=
  match Json.parse line with
  | .error e => Json.mkObj [("r", Json.str "bad-input"), ("why", Json.str e)]
  | .ok j =>
    match (j.getObjValAs? String "op").toOption.getD "" with
    | "diff.analyse" => handleDiff j
    | "diff.execute" => handleExecute j
    | "regen.exec" => handleRegen j
    | "text.escape" => handleEscape j
    | "text.printTags" => handlePrintTags j
    | "text.initLiteral" => handleInitLiteral j
    | "ops.gather" => handleGather j
    | "sec.serve" => handleSec j
    | "param.bind" => handleBind j
    | "names.renameTimeout" => handleRenameTimeout j
    | "scan.removeIndent" => handleRemoveIndent j
    | "scan.schema" => handleScanSchema j
    | "scan.schemes" => handleScanList true j
    | "scan.tags" => handleScanList false j
    | "doc.roundtrip" => handleDoc j
    | "pair.roundtrip" => handlePair j
    | "resp.dispatch" => handleDispatch j
    | "schema.check" => handleSchemaCheck j
    | "schema.tolerated" => handleTolerated j
    | op => Json.mkObj [("r", Json.str "bad-op"), ("op", Json.str op)]

partial def loop (h : IO.FS.Stream) (out : IO.FS.Stream) : IO Unit := do
  let line ← h.getLine
  if line.isEmpty then return ()
  let t := line.trimAscii.toString
  if t.isEmpty then loop h out else
  out.putStrLn (handle t).compress
  out.flush
  loop h out

def main : IO Unit := do loop (← IO.getStdin) (← IO.getStdout)
